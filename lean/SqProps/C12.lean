/-
  C12 — assignment has value semantics: stored values are independent copies.
  [A]: `deepcopy` never changes an existing object (frame), scalars are returned as they are, a
  copied container lives at a FRESH address (≥ the old heap size), and all four assignment forms
  store the result of `deepcopy`.  [B] `copy_reaches_only_new_objects` / `old_values_reach_only_old_objects` /
  `stored_copy_is_independent`: everything reachable from the stored copy was created by the copy; everything reachable
  from any older value is an old, unchanged object; the two sets of objects are disjoint, so no mutation on one side is
  visible on the other.  `stored_copy_has_same_content` / `stored_copy_keeps_sharing`: the copy reads like the original at
  every depth and keeps its aliasing structure.
-/
import Sq.Machine
import SqLemmas.CopyLemmas
import SqLemmas.CopyIso
namespace SqProps.C12
open Sq SqProps.C13

/-- **frame**: whatever `deepcopy` does, every object that existed before is unchanged -/
theorem deepcopy_frame : ∀ (f : Nat),
    (∀ h memo v v' h' memo', deepcopy f h memo v = some (v', h', memo') → HeapExt h h') ∧
    (∀ h memo vs vs' h' memo', deepcopy.copyList f h memo vs = some (vs', h', memo') → HeapExt h h') := Sq.deepcopy_ext

/-- the public form: a successful `copy.deepcopy` leaves every existing object — the original,
    host objects, other variables' values — exactly as it was -/
theorem deepcopy'_frame (h : Heap) (v v' : Val) (h' : Heap) (hc : deepcopy' h v = .ok (v', h')) :
    HeapExt h h' := Sq.deepcopy'_ext hc

/-- the copy of a list or dict is a NEW object: its address is at least the old heap size, so it
    is distinct from every object reachable before the assignment -/
theorem deepcopy'_container_fresh (h : Heap) (a : Nat) (v' : Val) (h' : Heap)
    (hc : deepcopy' h (.ref a) = .ok (v', h')) : v' = .ref h.size := by
  obtain ⟨m, hr⟩ := deepcopy'_ok hc
  -- with an empty memo the address cannot have been seen, so the walk allocates
  exact (deepcopy_ind (P := fun h m v v' _ _ => m = [] → ∀ a, v = .ref a → v' = .ref h.size) (Q := fun _ _ _ _ _ _ => True)
    (tuple := fun _ _ _ e => nomatch e) (seen := fun hp hm => by subst hm; cases hp)
    (list := fun _ _ _ _ _ _ => rfl) (dict := fun _ _ _ _ _ _ => rfl)
    (scalar := fun hnr _ _ a e => absurd e (hnr a)) (nil := trivial) (cons := fun _ _ => trivial) _).1 hr rfl a rfl

/-- immutable scalars are not copied (CPython shares them too; C12 is about mutable containers) -/
theorem deepcopy'_scalar (h : Heap) (v : Val) (hs : (∀ a, v ≠ .ref a) ∧ (∀ vs, v ≠ .tuple vs)) :
    deepcopy' h v = .ok (v, h) := by
  unfold deepcopy'
  rw [show heapWeight h + 64 = heapWeight h + 63 + 1 from rfl, deepcopy_scalar _ h [] v hs.1 hs.2]

/-- all four assignment forms store the deepcopy, never the value itself:
    `x = e` … -/
theorem assign_stores_copy (n : Name) (vmi : Nat) (v : Val) (k : List Frame) (w : World) :
    resume (.assignK n vmi) v k w =
      match deepcopy' w.heap v with
      | .error e => mkRaise e k w
      | .ok (v', h') =>
        match w.vm? vmi with
        | none => mkRaise (.unmodelled "vm") k w
        | some vm => match writeTop h' vm.scopes n v' with
          | some h'' => mkRet .none k { w with heap := h'' }
          | none => mkRaise (.unmodelled "scope") k w := rfl

/-- … `c[k] = e` … -/
theorem setitem_stores_copy (s : BState) (c k v : Val) :
    bSetItem s c k v =
      match checkArraySize s.heap c with
      | .error e => .error e
      | .ok () => match keyCast s.heap c k with
        | .error e => .error e
        | .ok k' => match deepcopy' s.heap v with
          | .error e => .error e
          | .ok (v', h') => match pySetItem { s with heap := h' } c k' v' with
            | .ok s' => ret v s'
            | .error e => .error e := rfl

/-- … and the compound forms copy their right-hand side before combining -/
theorem short_copies_rhs (n : Name) (sk : ShortK) (vmi : Nat) (v : Val) (k : List Frame) (w : World) (e : PyErr)
    (hc : deepcopy' w.heap v = .error e) : resume (.shortK n sk vmi) v k w = mkRaise e k w := by
  simp [resume, hc]

/-- **[B] the copy reaches only objects created by the copy**: after `copy.deepcopy` (heap `h` → `h'`), every
    object reachable from the result — through any depth of lists, dicts and tuples — is NEW (address ≥ |h|) -/
theorem copy_reaches_only_new_objects (h : Heap) (v v' : Val) (h' : Heap) (hk : KeysPlain h)
    (hc : deepcopy' h v = .ok (v', h')) : ∀ c, Reach h' v' c → c ≥ h.size := by
  obtain ⟨hv, hobj, _⟩ := deepcopy'_fresh h v v' h' hk hc
  exact fun c hr => reach_ge hobj hr hv

/-- **[B] older values reach only old, unchanged objects**: any value that existed before the copy (all its
    addresses < |h|) still reaches, in the new heap, only objects < |h| — each exactly as it was -/
theorem old_values_reach_only_old_objects (h : Heap) (v v' : Val) (h' : Heap) (hcl : Closed h)
    (hc : deepcopy' h v = .ok (v', h')) (u : Val) (hu : RefsLt h.size u) :
    ∀ c, Reach h' u c → c < h.size ∧ h'.get? c = h.get? c := by
  have hx := deepcopy'_frame h v v' h' hc
  intro c hr
  -- below `|h|` the new heap holds the old objects, and those mention only addresses below `|h|`
  have hlt : c < h.size := reach_lt (fun a ha o hg => hcl a o (hx.2 a ha ▸ hg)) hr hu
  exact ⟨hlt, hx.2 c hlt⟩

/-- **[B] independence of the stored copy**: no object is reachable both from the copy and from an older value.
    Hence a mutation applied through any other variable, container or host object (it can only touch objects
    reachable from an older value) is invisible through the stored value, and vice versa. -/
theorem stored_copy_is_independent (h : Heap) (v v' : Val) (h' : Heap) (hk : KeysPlain h) (hcl : Closed h)
    (hc : deepcopy' h v = .ok (v', h')) (u : Val) (hu : RefsLt h.size u) :
    ∀ c, ¬ (Reach h' v' c ∧ Reach h' u c) := by
  intro c ⟨h1, h2⟩
  have := copy_reaches_only_new_objects h v v' h' hk hc c h1
  have := (old_values_reach_only_old_objects h v v' h' hcl hc u hu c h2).1
  omega

theorem nested_list_closed : Closed #[.list [.ref 1], .list [.int 7]] := by
  refine Closed.of_mem fun o ho => ?_
  rcases List.mem_cons.mp ho with rfl | ho
  · intro v hv; cases List.mem_singleton.mp hv; exact .ref (by decide)
  · cases List.mem_singleton.mp ho; intro v hv; cases List.mem_singleton.mp hv; exact .int

/-- non-vacuity: a heap with a nested list satisfies the hypotheses, and its copy succeeds -/
example : KeysPlain #[.list [.ref 1], .list [.int 7]] ∧ Closed #[.list [.ref 1], .list [.int 7]] ∧
    (deepcopy' #[.list [.ref 1], .list [.int 7]] (.ref 0)).isOk = true := by
  refine ⟨?_, ?_, by decide⟩
  · intro a kvs hg
    match a, hg with
    | 0, hg => cases hg
    | 1, hg => cases hg
    | n + 2, hg => simp [Heap.get?] at hg
  · exact nested_list_closed

/-- the copy stored by `x = e` / `c[k] = e` reads exactly like the value it was made from: at every
    depth the two unfold to the same tree — same scalars in the same places, same lengths, same dict keys (cycles
    included: copy and original are bisimilar as rooted graphs) — and the original still reads as before.  Together with
    `stored_copy_is_independent` (no object shared with anything older) this is value semantics: same content, disjoint
    objects. -/
theorem stored_copy_has_same_content (h : Heap) (v v' : Val) (h' : Heap) (hcl : Closed h) (hv : RefsLt h.size v)
    (hc : deepcopy' h v = .ok (v', h')) (n : Nat) :
    unfoldT n h' v' = unfoldT n h v ∧ unfoldT n h' v = unfoldT n h v :=
  deepcopy'_unfold h v v' h' hcl hv hc n

/-- the invariant of the walk: every pair of the memo is finished at the end — the new object is the old
    one with its children replaced through the memo -/
theorem copy_walk_invariant (b : Nat) (h0 : Heap) (hcl : ∀ a o, a < b → h0.get? a = some o → ObjLt b o) (f : Nat)
    (h : Heap) (m : Memo) (v v' : Val) (h2 : Heap) (m2 : Memo) (hc : deepcopy f h m v = some (v', h2, m2))
    (hi : CI b h0 h m) (hv : RefsLt b v) : Spec b h0 h m h2 m2 ∧ Via m2 v v' :=
  (copy_spec b h0 hcl f).1 h m v v' h2 m2 hc hi hv

/-- non-vacuity: the nested list of the example above; its copy consists of two new objects and reads `[[7]]` -/
example : (deepcopy' #[.list [.ref 1], .list [.int 7]] (.ref 0)).toOption.map (fun r => r.2.size) = some 4 ∧
    (∀ h' v', deepcopy' #[.list [.ref 1], .list [.int 7]] (.ref 0) = .ok (v', h') →
      unfoldT 3 h' v' = .list [.list [.leaf (.int 7)]]) := by
  refine ⟨by decide +kernel, ?_⟩
  intro h' v' hc
  rw [(stored_copy_has_same_content _ _ _ _ nested_list_closed (RefsLt.ref (by decide)) hc 3).1]
  rfl

/-- **the copy keeps the aliasing structure**: the stored copy is the original with every address replaced through ONE map that
    sends two addresses to the same new address exactly when they are the same address — what was shared inside the value
    stays shared inside the copy (two paths to one object), what was distinct stays distinct, cycles stay cycles; every
    new object is the old one with its children replaced through that map (`Done`) -/
theorem stored_copy_keeps_sharing (h : Heap) (v v' : Val) (h' : Heap) (hcl : Closed h) (hv : RefsLt h.size v)
    (hc : deepcopy' h v = .ok (v', h')) :
    ∃ m : Memo, Via m v v' ∧ (∀ p, p ∈ m → Done h h' m p) ∧
      ∀ a1 a2 p1 p2, m.get a1 = some p1 → m.get a2 = some p2 → (p1.2 = p2.2 ↔ a1 = a2) := by
  obtain ⟨m, via, hdone, ci⟩ := deepcopy'_walk h v v' h' hcl hv hc
  exact ⟨m, via, hdone, fun a1 a2 p1 p2 g1 g2 => memo_preserves_sharing ci g1 g2⟩

end SqProps.C12
