/-
  C13 — non-mutating builtins never modify their arguments.
  `HeapExt h h'`: every object of `h` is still in `h'`, unchanged (new objects may have been
  appended).  [A]: allocation is an extension; a result that is `Harmless` (an error, the state as it was, or one
  freshly allocated container) extends the heap; `keys`, `values`, `items`, `reversed`, `list`, `enumerate` give such
  results, `sorted` finishes with one allocation, `push` writes its receiver only.  The other entries of the table:
  SqLemmas/HarmlessAll.lean, restated in C13All.lean; whole programs: C13Run.lean (the monitor snapshots every argument of
  every entry as well).
-/
import Sq.Machine
import SqLemmas.ListRefine
import SqLemmas.BuiltinTable
namespace SqProps.C13
open Sq

/-- every name on the list of mutators is a name of the builtin table: the list excludes nothing that does not exist -/
theorem mutators_are_builtins : ∀ n ∈ mutatorNames, n ∈ builtinNames := by decide

/-- a result produced by one of the four "harmless" forms -/
inductive Harmless (s : BState) : BR → Prop
  | err (e : PyErr) : Harmless s (.error e)
  | ret (v : Val) : Harmless s (.ok (v, s))
  | newList (xs : List Val) : Harmless s (.ok (allocList s xs))
  | newDict (kvs : List (Val × Val)) : Harmless s (.ok (allocDict s kvs))

theorem Harmless.ext {s : BState} {r : BR} (hh : Harmless s r) (v : Val) (s' : BState)
    (h : r = .ok (v, s')) : HeapExt s.heap s'.heap := by
  cases hh with
  | err e => cases h
  | ret v0 => cases h; exact .refl _
  | newList xs => exact of_allocList (Except.ok.inj h)
  | newDict kvs => cases h; exact allocDict_ext ..

theorem Harmless.map {α : Type} (s : BState) (e : R α) (f : α → Val) : Harmless s (e.map (fun x => (f x, s))) := by
  cases e with
  | error e => exact .err e
  | ok x => exact .ret _

/-- `harmless b_x` proves `Harmless s (b_x args s)`: unfold the builtin, reduce its `let`s, split every `match` and `if`
    of the body.  The body never passes on a state other than `s`, so each branch that is left is literally an error,
    `ret _ s`, an allocation in `s` (a constructor of `Harmless`) or `_.map (·, s)` (`Harmless.map`). -/
syntax "harmless" (ppSpace ident)+ : tactic
macro_rules
  | `(tactic| harmless $fs*) => `(tactic| (
  unfold $fs*
  try dsimp only
  repeat' (first | split | (dsimp only; split))
  all_goals first | constructor | exact .map ..))

/-- `keys` / `values` / `items`: a new list; nothing existing changes -/
theorem keys_harmless (args : List Val) (s : BState) : Harmless s (b_keys args s) := by harmless b_keys

theorem values_harmless (args : List Val) (s : BState) : Harmless s (b_values args s) := by harmless b_values

theorem items_harmless (args : List Val) (s : BState) : Harmless s (b_items args s) := by harmless b_items

/-- `reversed`: a string, or a new list -/
theorem reversed_harmless (args : List Val) (s : BState) : Harmless s (b_reversed args s) := by harmless b_reversed

/-- `list(...)` (list literals): a new list holding the argument values -/
theorem list_harmless (args : List Val) (s : BState) : Harmless s (b_list args s) := by harmless b_list

theorem enumerate_harmless (args : List Val) (s : BState) : Harmless s (b_enumerate args s) := by harmless b_enumerate

/-- the corollary in the property's words: after a successful call every pre-existing object —
    in particular every argument — is exactly as it was -/
theorem nonmutating_of_harmless {s : BState} {r : BR} (hh : Harmless s r) (v : Val) (s' : BState)
    (h : r = .ok (v, s')) (a : Nat) (ha : a < s.heap.size) : s'.heap.get? a = s.heap.get? a :=
  (hh.ext v s' h).2 a ha

/-- the result of `sorted` (with or without key) is a freshly allocated container -/
theorem sortFinish_nonmutating (keys items : List Val) (rev dm : Bool) (k : List Frame) (w : World) :
    HeapExt w.heap (sortFinish keys items rev dm k w).w.heap := by
  unfold sortFinish
  split
  · exact HeapExt.refl _
  · split
    · simpa [mkRet] using alloc_ext w.heap _
    · simpa [mkRet] using alloc_ext w.heap _

/-- the mutators, for contrast, write exactly the object they are applied to: `push` -/
theorem push_writes_only_target (s : BState) (a : Nat) (v r : Val) (s' : BState)
    (h : b_push [.ref a, v] s = .ok (r, s')) : ∀ b, b ≠ a → s'.heap.get? b = s.heap.get? b := by
  obtain ⟨a', x, xs, e, -, -, -, rfl⟩ := b_push_inv h
  cases e
  exact fun b hb => get?_set_ne _ (Ne.symm hb) _

end SqProps.C13
