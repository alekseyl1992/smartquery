/-
  C07 — evaluation agrees with the reference semantics (for that see C07Den).  Here: single transitions that the property's
  statement names (statement lists, `x = e` yields None, `+` with a string on the left, index and dict-key casts, parameter
  binding, closures), the op counter as a count of node evaluations, the frame lemma, and statement lists in big steps.
-/
import Sq.Proto
import SqProps.C01
import SqProps.C09
import SqProps.C10
namespace SqProps.C07
open Sq

/-- a program's value is the value of its last line -/
theorem code_last_line (vm : Nat) (v : Val) (k : List Frame) (w : World) :
    resume (.codeK [] vm) v k w = mkRet v k w := rfl

/-- lines are evaluated in order; the value of a line that is not the last is dropped -/
theorem code_next_line (l : Op) (rest : List Op) (vm : Nat) (v : Val) (k : List Frame) (w : World) :
    resume (.codeK (l :: rest) vm) v k w = { ctl := .ev l vm, k := .codeK rest vm :: k, w := w } := rfl

/-- an empty program yields None -/
theorem empty_program_none (vm : Nat) (k : List Frame) (w : World) : enter (.code []) vm k w = mkRet .none k w := rfl

/-- `x = e` yields None (and stores a deep copy, see C12) -/
theorem assign_yields_none (n : Name) (vmi : Nat) (v v' : Val) (k : List Frame) (w : World) (h' h'' : Heap) (vm : VM)
    (hc : deepcopy' w.heap v = .ok (v', h')) (hv : w.vm? vmi = some vm)
    (hw : writeTop h' vm.scopes n v' = some h'') :
    (resume (.assignK n vmi) v k w).ctl = .ret .none :=
  congrArg Core.ctl (C10.toplevel_assign_writes_host n vmi v v' k w h' h'' vm hc hv hw)

/-- string on the left coerces the right operand with `str` … -/
theorem add_str_left_coerces (w : World) (s : List Char) (b : Val) (t : List Char)
    (hb : ∀ x, b ≠ .str x) (hs : pyStr w.heap b = .ok t) :
    applyBin w .add (.str s) b = .ok (.str (s ++ t), w) := by
  unfold applyBin
  -- `hb` is the side condition of the arm `.str _, _` of the coercion `match`
  simp only [hs]
  rfl

/-- … but not the other way round: a number plus a string is a TypeError -/
theorem add_str_right_no_coercion (w : World) (d : Dec) (c : Bool) (s : List Char) :
    applyBin w .add (.dec d c) (.str s) = .error .typeError := rfl

/-- decimal list indices address the truncated integer position -/
theorem index_cast_truncates (d : Dec) (c : Bool) : listKeyCast (.dec d c) = .int d.toInt := rfl

/-- dict keys are cast with `str` -/
theorem dict_key_cast_str (h : Heap) (k : Val) : dictKeyCast h k = (pyStr h k).map Val.str := rfl

/-- the index / slice / del / assign sugar are calls of the four helpers (tree-building actions of
    rules.py; finite tests on the model's parser) -/
example : Proto.parsesTo "a[0]" (.code [.call "__getitem__".toList [.name ['a'], .value (.num ⟨false, 0, 0⟩)]]) = true := by decide +kernel
example : Proto.parsesTo "a[0] = 1" (.code [.call "__setitem__".toList [.name ['a'], .value (.num ⟨false, 0, 0⟩), .value (.num ⟨false, 1, 0⟩)]]) = true := by decide +kernel
example : Proto.parsesTo "a[0] += 1" (.code [.call "__setitem_with_op__".toList [.name ['a'], .value (.num ⟨false, 0, 0⟩), .value (.str ['+', '=']), .value (.num ⟨false, 1, 0⟩)]]) = true := by decide +kernel
example : Proto.parsesTo "del a[0]" (.code [.call "__delitem__".toList [.name ['a'], .value (.num ⟨false, 0, 0⟩)]]) = true := by decide +kernel
example : Proto.parsesTo "a[1:]" (.code [.call "__getitem__".toList [.name ['a'], .slice (.value (.num ⟨false, 1, 0⟩)) (.value .none) (.value .none)]]) = true := by decide +kernel

/-- lambda parameters bind positionally with `zip` truncation: extra arguments are dropped,
    missing ones leave the name unbound -/
theorem params_zip_truncates_extra (ps : List Op) (acc : List (Val × Val)) :
    bindParams ps [] acc = some acc := by
  cases ps <;> rfl

theorem params_zip_truncates_missing (args : List Val) (acc : List (Val × Val)) :
    bindParams [] args acc = some acc := rfl

/-- free names of a lambda body resolve at *call* time in the scope stack of the VM captured at
    creation: creating a lambda captures only parameters, body and the VM index -/
theorem lambda_captures_vm_only (ps : List Op) (body : Op) (vm : Nat) (k : List Frame) (w : World) :
    enter (.lambda ps body) vm k w = mkRet (.closure ps body vm) k w := rfl

/-- the number of operations charged equals the number of node evaluations: the counter moves
    only in the charge step of `ev` (see C01.charge_then_enter / ops_counted) -/
theorem ret_does_not_charge (c : Cfg) (v : Val) (hc : c.ctl = .ret v) (hk : c.k = []) :
    (step c).w = c.w := by
  obtain ⟨ctl, k, w, B⟩ := c
  subst hc hk
  rfl

/-- **the number of operations charged equals the number of syntax-tree node evaluations**: after any number of
    steps of any run, every VM's counter is its initial value plus the number of `ev` steps (node evaluations started)
    on it — lambda bodies driven by map / filter / reduce / sorted / host callbacks included (C01.ops_counted) -/
theorem ops_equal_node_evaluations (n : Nat) (c : Cfg) (hvalid : ∀ k, k < n → SqProps.C01.Valid (run k c)) (i : Nat) :
    (opsOf (run n c).w)[i]? = ((opsOf c.w)[i]?).map (· + SqProps.C01.evCount n c i) :=
  SqProps.C01.ops_counted n c hvalid i

/-- **compositionality of the machine (frame lemma)**: an evaluation that stays within its own continuation runs
    exactly the same steps — same values, same world, same charges — beneath any pending frames `k0`, and leaves
    them untouched.  This is what makes the reference semantics a semantics of EXPRESSIONS: the meaning of a
    subexpression does not depend on where it stands. -/
theorem evaluation_is_compositional (n : Nat) (c : Cfg) (k0 : List Frame)
    (h : ∀ i, i < n → ¬ Underflow (run i c).core) : run n (c.app k0) = (run n c).app k0 :=
  run_app n c k0 h

open SqProps.C09 in
/-- **statement lists, big step**: the lines of a program (or lambda body) are evaluated in order, each completely
    and exactly once, each in the world its predecessor left, and the value of the LAST line is the result -/
theorem code_big_step {B vmi} (k : List Frame) (rest : List Op) :
    ∀ {a w n v w1 m vs w2}, EvalsTo B a vmi w n v w1 → EvalsSeq B vmi w1 rest m vs w2 →
    run (n + 1 + m) { ctl := .ev a vmi, k := .codeK rest vmi :: k, w := w, budgets := B } =
      (mkRet ((v :: vs).getLast (by simp)) k w2).withBudgets B := by
  intro a w n v w1 m vs w2 ha hs
  rw [seq_big_step (F := fun _ t => .codeK t vmi) (fin := fun vs k w => mkRet (vs.getLastD .none) k w)
    (fun _ _ _ _ _ _ => rfl) (fun d v k w => by rw [List.reverse_cons, List.getLastD_concat]; rfl) k hs [] ha]
  simp [List.getLastD_eq_getLast?, List.getLast?_eq_some_getLast]

end SqProps.C07
