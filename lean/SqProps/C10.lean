/-
  C10 — scoping: innermost-first lookup, host write-back, no leaking lambda scopes.
  [A] lookup, write, push and pop in one transition.  [B] `scope_balanced` (`run_bal`) and its corollaries: along every run,
  through every builtin, callback, iteration and error path, the scopes beneath those of the pending lambda calls are the
  initial ones; when no lambda call is pending (as when the evaluation has ended) every VM's scope stack is what it was.
-/
import SqLemmas.Local
namespace SqProps.C10
open Sq

/-- a name bound in the top scope resolves there, whatever the scopes below hold -/
theorem lookup_innermost_first (h : Heap) (a : Nat) (rest : List Nat) (n : Name) (v : Val)
    (hf : scopeFind h a n = some v) : lookupName h (a :: rest) n = some v := by
  rw [lookupName, hf]

/-- a name not bound in the top scope is looked up in the rest of the stack -/
theorem lookup_falls_through (h : Heap) (a : Nat) (rest : List Nat) (n : Name)
    (hf : scopeFind h a n = none) : lookupName h (a :: rest) n = lookupName h rest n := by
  rw [lookupName, hf]

/-- the builtins are consulted last: with an empty stack of host / call scopes a name resolves to
    the builtin of that name iff it is a key of FUNCTIONS -/
theorem builtins_last (h : Heap) (n : Name) :
    lookupName h [] n = if builtinNames.contains (String.ofList n) then some (.builtin (String.ofList n)) else none := rfl

/-- host bindings override builtins: a single host scope binding `n` wins -/
theorem host_overrides_builtin (h : Heap) (host : Nat) (n : Name) (v : Val)
    (hf : scopeFind h host n = some v) : lookupName h [host] n = some v :=
  lookup_innermost_first h host [] n v hf

/-- writes go to the top scope and change no other object -/
theorem writes_go_to_top (h h' : Heap) (a : Nat) (rest : List Nat) (n : Name) (v : Val)
    (hw : writeTop h (a :: rest) n v = some h') :
    ∀ b, b ≠ a → h'.get? b = h.get? b := by
  obtain ⟨_, _, _, hsc, -, rfl⟩ := of_writeTop_eq_some hw
  cases hsc
  exact fun b hb => get?_set_ne _ (Ne.symm hb) _

/-- a lambda call pushes exactly one fresh scope on the VM the closure captured … -/
theorem call_pushes_scope (fuel : Nat) (ps : List Op) (body : Op) (vmi : Nat) (args : List Val)
    (k : List Frame) (w : World) (kvs : List (Val × Val)) (vm : VM)
    (hb : bindParams ps args [] = some kvs) (hv : w.vm? vmi = some vm) :
    callVal (fuel + 1) (.closure ps body vmi) args k w =
      { ctl := .ev body vmi, k := .popScopeK vmi :: k,
        w := ({ w with heap := w.heap.push (.dict kvs) }).setVM vmi { vm with scopes := w.heap.size :: vm.scopes } } := by
  unfold callVal callClosure
  simp only [hb, hv]
  rfl

/-- … and that scope is popped when the call returns … -/
theorem return_pops_scope (vmi : Nat) (v : Val) (k : List Frame) (w : World) (vm : VM)
    (hv : w.vm? vmi = some vm) :
    resume (.popScopeK vmi) v k w = mkRet v k (w.setVM vmi { vm with scopes := vm.scopes.tail }) := by
  unfold resume; simp only [hv]

/-- … or raises (the `finally` of make_scope): the error continues to propagate -/
theorem raise_pops_scope (vmi : Nat) (e : PyErr) (k : List Frame) (w : World) (vm : VM)
    (hv : w.vm? vmi = some vm) :
    unwind (.popScopeK vmi) e k w = mkRaise e k (w.setVM vmi { vm with scopes := vm.scopes.tail }) := by
  unfold unwind; simp only [hv]

/-- a host callback that catches the error (`try_apply`) resumes the program with `None`;
    scope frames between the raise and the catch have been popped one by one on the way -/
theorem try_catches (e : PyErr) (k : List Frame) (w : World) (h : ∀ s, e ≠ .unmodelled s) :
    unwind .tryK e k w = mkRet .none k { w with log := .caught e.cls :: w.log } := by
  unfold unwind
  -- side condition of the last arm of `match e`: `h`
  simp only []

/-- top-level assignment writes the (copied) value into the top scope of the eval's VM, which
    outside any call is the host's mapping -/
theorem toplevel_assign_writes_host (n : Name) (vmi : Nat) (v v' : Val) (k : List Frame) (w : World)
    (h' h'' : Heap) (vm : VM)
    (hc : deepcopy' w.heap v = .ok (v', h')) (hv : w.vm? vmi = some vm)
    (hw : writeTop h' vm.scopes n v' = some h'') :
    resume (.assignK n vmi) v k w = mkRet .none k { w with heap := h'' } := by
  unfold resume; simp only [hc, hv, hw]

/-- **[B] scope_balanced**: for every configuration, every number of steps and every VM state `i`: the scope
    stack of VM `i` minus its `popCount i k` topmost entries (one per pending lambda call on that VM) never changes -/
theorem scope_balanced (n : Nat) (c : Cfg) (i : Nat) :
    bal (run n c).w (run n c).k i = bal c.w c.k i := run_bal n c i

/-- … and while lambda calls are pending, the original scopes sit exactly beneath the `popCount` call scopes:
    the host's mapping is never removed, replaced or buried deeper than the pending calls -/
theorem host_scope_beneath (n : Nat) (c : Cfg) (i : Nat) (vm vm' : VM)
    (h0 : popCount i c.k = 0)
    (hv : c.w.vms[i]? = some vm) (hv' : (run n c).w.vms[i]? = some vm') :
    vm'.scopes.drop (popCount i (run n c).k) = vm.scopes := by
  have := run_bal n c i
  unfold bal at this
  rw [hv, hv', h0] at this
  simpa using this

/-- **[B] no leaking lambda scopes**: start anywhere no lambda call on VM `i` is pending (e.g. `initCfg`);
    at every later moment at which none is pending — after any number of lambda calls have returned or raised,
    in particular when the evaluation is over — VM `i` has exactly its original scope stack -/
theorem scopes_restored (n : Nat) (c : Cfg) (i : Nat) (vm vm' : VM)
    (h0 : popCount i c.k = 0) (h1 : popCount i (run n c).k = 0)
    (hv : c.w.vms[i]? = some vm) (hv' : (run n c).w.vms[i]? = some vm') : vm'.scopes = vm.scopes := by
  have := host_scope_beneath n c i vm vm' h0 hv hv'
  rwa [h1, List.drop_zero] at this

/-- the initial configuration of an `eval` call has no pending lambda call, and its VM's only scope is the
    host's names mapping — so the two theorems above apply to every evaluation (non-vacuity) -/
theorem initCfg_balanced (w : World) (bs : List Nat) (namesAddr budget : Nat) (ast : Op) (an : List (Name × Op)) :
    popCount w.vms.length (initCfg w bs namesAddr budget ast an).k = 0 ∧
    (initCfg w bs namesAddr budget ast an).w.vms[w.vms.length]? = some { scopes := [namesAddr], ops := 0 } := by
  unfold initCfg
  constructor
  · cases an with
    | nil => rfl
    | cons p r => obtain ⟨n, op⟩ := p; rfl
  · simp

/-- **every evaluation ends with the host mapping as the only scope**: whatever the program, budget and number
    of steps, once the continuation is empty the eval's VM holds `[namesAddr]` -/
theorem eval_ends_with_host_scope_only (w : World) (bs : List Nat) (namesAddr budget : Nat) (ast : Op)
    (an : List (Name × Op)) (n : Nat) (vm' : VM)
    (hk : (run n (initCfg w bs namesAddr budget ast an)).k = [])
    (hv' : (run n (initCfg w bs namesAddr budget ast an)).w.vms[w.vms.length]? = some vm') :
    vm'.scopes = [namesAddr] := by
  obtain ⟨h0, hv⟩ := initCfg_balanced w bs namesAddr budget ast an
  exact scopes_restored n _ _ _ vm' h0 (by rw [hk]; rfl) hv hv'

end SqProps.C10
