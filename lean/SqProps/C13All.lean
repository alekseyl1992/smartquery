/-
  C13 (continued) — [B] every non-mutating entry of the builtin table, whatever its arguments, leaves all existing
  objects exactly as they were (SqLemmas/InvAll.lean: one lemma `res_*` per entry that writes nothing, saying what it
  returns, and `sum_ok`; SqLemmas/HarmlessAll.lean reads the heap extension off each and assembles them over the table).
  The higher-order builtins map / filter / reduce / sorted are not table entries: they only iterate and call the
  user's function (machine lemmas `sortFinish_nonmutating`, C13.lean); whatever their callback mutates is the
  callback's own doing.
-/
import SqLemmas.HarmlessAll
namespace SqProps.C13
open Sq

/-- **all 35 non-mutating table entries**: len, int, float, str, dict, list, startswith, endswith, lower, upper, strip,
    replace, match, match_groups, match_all, pretty, keys, values, items, sum, get, __getitem__, join, split, round,
    floor, ceil, abs, min, max, rand, reversed, enumerate, shuffle, index_of -/
theorem every_nonmutating_builtin_preserves : ∀ p, p ∈ callPureTable → p.1 ∉ mutatorNames →
    ∀ args s v s', p.2 args s = .ok (v, s') → HeapExt s.heap s'.heap := table_nonmutating

/-- through the dispatcher the machine uses -/
theorem nonmutating_call_preserves (name : String) (hn : name ∉ mutatorNames) (args : List Val) (s : BState) (v : Val)
    (s' : BState) (h : callPure name args s = .ok (v, s')) :
    ∀ a, a < s.heap.size → s'.heap.get? a = s.heap.get? a :=
  (callPure_nonmutating name hn args s v s' h).2

/-- the classification covers the table: every entry is one of the 7 mutators or one of the 35 above -/
theorem table_is_classified : callPureTable.length = 42 ∧ mutatorNames.length = 7 ∧
    (callPureTable.filter (fun p => !mutatorNames.contains p.1)).length = 35 := by decide

end SqProps.C13
