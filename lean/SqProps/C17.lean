/-
  C17 — the parse cache is transparent.
  The cache is a finite map plus an arbitrary retention policy applied after every insertion and
  every hit (covers dict, bounded LRU, always-evicting, pre-warmed).  Invariant: every cached
  entry is what a fresh parse of its key gives.  Under the invariant a cached `parse` returns what
  the uncached one returns; the invariant is preserved by every call and every policy that only
  forgets or reorders entries.  `eval` goes through the same `parse`.
  [B] `cache_transparent`: lifted to EVERY sequence of parse / list_names / eval calls by a simulation between the
  parser with the cache and the parser without (`Sim`, `sim_step`): same results, errors and worlds, call by call.
-/
import SqLemmas.SessionLemmas
namespace SqProps.C17
open Sq

def CacheOK (pf : ParseFn) (e : List (List Char × Op)) : Prop :=
  ∀ p ∈ e, pf LexSt.init p.1 = .ok p.2

/-- a policy may forget and reorder entries but never invent or alter one -/
def PolicyOK (pol : Policy) : Prop :=
  (∀ e p, p ∈ pol.afterInsert e → p ∈ e) ∧ (∀ k e p, p ∈ pol.afterHit k e → p ∈ e)

theorem dict_policy_ok : PolicyOK Policy.dict := ⟨fun _ _ h => h, fun _ _ _ h => h⟩

theorem evict_policy_ok : PolicyOK Policy.evict := ⟨fun _ _ h => by simp [Policy.evict] at h, fun _ _ _ h => h⟩

theorem lru_policy_ok (n : Nat) : PolicyOK (Policy.lru n) := by
  constructor
  · intro e p h
    exact List.mem_of_mem_drop h
  · intro k e p h
    simp only [Policy.lru] at h
    split at h
    · rename_i q hq
      rcases List.mem_append.mp h with h | h
      · exact (List.mem_filter.mp h).1
      · simp at h; subst h; exact List.mem_of_find?_eq_some hq
    · exact h

theorem empty_cache_ok (pf : ParseFn) : CacheOK pf [] := by intro p h; cases h

theorem cacheFind_ok (pf : ParseFn) (e : List (List Char × Op)) (k : List Char) (t : Op)
    (hok : CacheOK pf e) (hf : cacheFind e k = some t) : pf LexSt.init k = .ok t :=
  hok _ (cacheFind_mem hf)

theorem cacheInsert_ok (pf : ParseFn) (e : List (List Char × Op)) (k : List Char) (t : Op)
    (hok : CacheOK pf e) (ht : pf LexSt.init k = .ok t) : CacheOK pf (cacheInsert e k t) :=
  fun p hp => (mem_cacheInsert hp).elim (hok p) (fun h => h ▸ ht)

/-- with a cache of genuine parses, `parse` is still the parse function run from the initial lexer state -/
theorem parse_cached_eq_fresh (pf : ParseFn) (pol : Policy) (s : Session) (expr : List Char)
    (e : List (List Char × Op)) (hc : s.cache = some e) (hok : CacheOK pf e) :
    (parseCall pf pol s expr).1 = pf LexSt.init expr := by
  cases hf : cacheFind e expr with
  | some t => rw [parseCall_hit s hc hf, cacheFind_ok pf e expr t hok hf]
  | none => rw [parseCall_miss s hc hf]

/-- **a cached parse returns what the uncached parse returns** -/
theorem parse_cached_eq_uncached (pf : ParseFn) (pol : Policy) (s : Session) (expr : List Char)
    (e : List (List Char × Op)) (hc : s.cache = some e) (hok : CacheOK pf e) :
    (parseCall pf pol s expr).1 = (parseCall pf pol { s with cache := none } expr).1 := by
  rw [parse_cached_eq_fresh pf pol s expr e hc hok, parseCall_none { s with cache := none } rfl]

/-- the invariant survives the call, for every policy that only forgets / reorders -/
theorem parse_preserves_cache_ok (pf : ParseFn) (pol : Policy) (s : Session) (expr : List Char)
    (e : List (List Char × Op)) (hc : s.cache = some e) (hok : CacheOK pf e) (hp : PolicyOK pol) :
    ∃ e', (parseCall pf pol s expr).2.cache = some e' ∧ CacheOK pf e' := by
  cases hf : cacheFind e expr with
  | some t =>
    rw [parseCall_hit s hc hf]
    exact ⟨_, rfl, fun p hpm => hok p (hp.2 expr e p hpm)⟩
  | none =>
    rw [parseCall_miss s hc hf]
    refine ⟨_, rfl, ?_⟩
    cases hr : pf LexSt.init expr with
    | ok t => exact fun p hpm => cacheInsert_ok pf e expr t hok hr p (hp.1 _ p hpm)
    | _ => exact hok

/-- only successful parses are stored: a failing text leaves the cache as it was -/
theorem failed_parse_not_cached (pf : ParseFn) (pol : Policy) (s : Session) (expr : List Char)
    (e : List (List Char × Op)) (hc : s.cache = some e) (hmiss : cacheFind e expr = none)
    (hfail : ∀ t, pf (applyResets Resets.all s.lex) expr ≠ .ok t) :
    (parseCall pf pol s expr).2.cache = some e := by
  rw [parseCall_miss s hc hmiss]
  cases hr : pf LexSt.init expr with
  | ok t => exact absurd hr (hfail t)
  | _ => rfl

/-- evaluation never alters a tree: the machine only takes trees apart.  Entering a node puts
    sub-trees of that node into control / frames and nothing else (stated for the node kinds
    that have sub-trees; the tree itself is an immutable Lean value, so "altering" it is not
    expressible — this is the model-level reading of "eval methods only read the tree") -/
theorem enter_uses_subtrees_bin (bk : BinK) (a b : Op) (vm : Nat) (k : List Frame) (w : World) :
    (enter (.bin bk a b) vm k w).ctl = .ev a vm ∧ (enter (.bin bk a b) vm k w).k = .binL bk b vm :: k := ⟨rfl, rfl⟩

/-- list / dict literals allocate a fresh container per evaluation (so a result handed to the
    host shares nothing with the tree or with an earlier evaluation of the same tree) -/
theorem list_literal_fresh (vs : List Val) (s : BState) :
    b_list vs s = .ok (.ref s.heap.size, { s with heap := s.heap.push (.list vs) }) := by
  simp [b_list, allocList, Heap.alloc]

theorem dict_literal_fresh (vm : Nat) (k : List Frame) (w : World) :
    enter (.dict []) vm k w = mkRet (.ref w.heap.size) k { w with heap := w.heap.push (.dict []) } := by
  simp [enter, Heap.alloc]

inductive ACall
  | parse (expr : List Char)
  | names (expr : List Char) (limit : Option Nat)
  | eval (expr : List Char) (namesAddr budget : Nat)

/-- what the caller observes of one call -/
inductive AOut
  | parsed (r : Proto.ParseOut)
  | names (r : List (List Char) × Option LexErr)
  | evaluated (r : EvalOut) (w : World)        -- result AND the whole world afterwards (names mappings, host objects, log)

def apiCall (pf : ParseFn) (pol : Policy) (fuel : Nat) (s : Session) : ACall → AOut × Session
  | .parse e => let r := parseCall pf pol s e; (.parsed r.1, r.2)
  | .names e l => let r := listNamesCall s e l; (.names r.1, r.2)
  | .eval e a b => let r := evalCall pf pol fuel s e a b; (.evaluated r.1 r.2.world, r.2)

/-- a parser with a cache satisfying the invariant vs. a parser without cache, same evaluation state;
    the lexer fields may differ (a cache hit does not lex) -/
def Sim (pf : ParseFn) (s s' : Session) : Prop :=
  s.world = s'.world ∧ s.budgets = s'.budgets ∧ s'.cache = none ∧ ∃ e, s.cache = some e ∧ CacheOK pf e

theorem sim_parse (pf : ParseFn) (pol : Policy) (hp : PolicyOK pol) (s s' : Session) (h : Sim pf s s') (expr : List Char) :
    (parseCall pf pol s expr).1 = (parseCall pf pol s' expr).1 ∧
    Sim pf (parseCall pf pol s expr).2 (parseCall pf pol s' expr).2 := by
  obtain ⟨hw, hb, hn, e, hc, hok⟩ := h
  obtain ⟨w1, b1⟩ := parseCall_world_budgets pf pol s expr
  obtain ⟨w2, b2⟩ := parseCall_world_budgets pf pol s' expr
  refine ⟨?_, by rw [w1, w2, hw], by rw [b1, b2, hb], ?_, parse_preserves_cache_ok pf pol s expr e hc hok hp⟩
  · rw [parse_cached_eq_fresh pf pol s expr e hc hok, parseCall_none s' hn]
  · rw [parseCall_none s' hn]; exact hn

/-- **one call**: same observation, and the two parsers stay related -/
theorem sim_step (pf : ParseFn) (pol : Policy) (hp : PolicyOK pol) (fuel : Nat) (s s' : Session) (h : Sim pf s s')
    (c : ACall) :
    (apiCall pf pol fuel s c).1 = (apiCall pf pol fuel s' c).1 ∧
    Sim pf (apiCall pf pol fuel s c).2 (apiCall pf pol fuel s' c).2 := by
  cases c with
  | parse expr =>
    obtain ⟨h1, h2⟩ := sim_parse pf pol hp s s' h expr
    exact ⟨congrArg AOut.parsed h1, h2⟩
  | names expr limit =>
    -- `listNamesCall_eq`: nothing of the session is read, only `lex` is written
    exact ⟨rfl, h⟩
  | eval expr a b =>
    obtain ⟨h1, -, -, hn, hc⟩ := sim_parse pf pol hp s s' h (Str.rstrip expr)
    obtain ⟨hr, hw, hb⟩ := evalCall_congr fuel a b h1 h.1 h.2.1
    simp only [apiCall]
    refine ⟨by rw [hr, hw], hw, hb, ?_, ?_⟩
    · rw [evalCall_cache]; exact hn
    · rw [evalCall_cache]; exact hc

def runCalls (pf : ParseFn) (pol : Policy) (fuel : Nat) : Session → List ACall → List AOut
  | _, [] => []
  | s, c :: cs => (apiCall pf pol fuel s c).1 :: runCalls pf pol fuel (apiCall pf pol fuel s c).2 cs

/-- **the parse cache is transparent**: for EVERY sequence of parse / list_names / eval calls (any texts, any
    outcomes, any budgets, any names mappings), every retention policy that only forgets or reorders entries (plain
    dict, bounded LRU, always evicting, …) and every pre-warmed cache whose entries are genuine parses, the parser with
    the cache and the parser without it produce the same results, errors, and worlds (names mappings, host objects, log) -/
theorem cache_transparent (pf : ParseFn) (pol : Policy) (hp : PolicyOK pol) (fuel : Nat) (cs : List ACall) :
    ∀ (s s' : Session), Sim pf s s' → runCalls pf pol fuel s cs = runCalls pf pol fuel s' cs := by
  induction cs with
  | nil => intro s s' _; rfl
  | cons c cs ih =>
    intro s s' h
    obtain ⟨h1, h2⟩ := sim_step pf pol hp fuel s s' h c
    simp only [runCalls]
    rw [h1, ih _ _ h2]

/-- non-vacuity: a fresh parser with an empty cache and one without are related -/
theorem fresh_sim (pf : ParseFn) (w : World) : Sim pf (Session.fresh (some []) w) (Session.fresh none w) :=
  ⟨rfl, rfl, rfl, [], rfl, empty_cache_ok pf⟩

/-- non-vacuity: the empty cache satisfies the invariant for the model's own parser -/
example : CacheOK (fun st src => Proto.parseLazy st src) [] := empty_cache_ok _

end SqProps.C17
