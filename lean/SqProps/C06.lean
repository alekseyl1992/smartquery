/-
  C06 — the parser accepts exactly the grammar and groups by the operator table.
  [A] the binding powers used by the parser model are the declared levels with their associativity (with SqTie.prec_tie this
  pins them to `lexer.precedence`), and the operator loop decides by that table alone.  [B] the parser accepts exactly the
  levelled derivation relation (SqLemmas/ParseSpec), with exactly the derived tree, and the relation lies inside the
  context-free language of the 77 productions generated from rules.py.  The converse inclusion is false by design (the
  operator table rejects `a < b < c`) and by finding D8 (`(a) => a`); D7 is a regrouping (`a + b not in c`) and an
  acceptance beyond the table.  D7 / D8 are machine-checked on the model and replayed on the implementation by the monitor.
-/
import Sq.Proto
import SqLemmas.ParseCFG
import SqLemmas.ParseMap
namespace SqProps.C06
open Sq

/-- the levels and associativities of the binary operators, as read off the table -/
theorem prec_levels :
    levelOf (some .OR) = some (3, .left) ∧ levelOf (some .AND) = some (4, .left) ∧
    levelOf (some .EQ) = some (5, .nonassoc) ∧ levelOf (some .NE) = some (5, .nonassoc) ∧
    levelOf (some .GT) = some (5, .nonassoc) ∧ levelOf (some .LT) = some (5, .nonassoc) ∧
    levelOf (some .GTE) = some (5, .nonassoc) ∧ levelOf (some .LTE) = some (5, .nonassoc) ∧
    levelOf (some .IN) = some (5, .nonassoc) ∧
    levelOf (some .PLUS) = some (6, .left) ∧ levelOf (some .MINUS) = some (6, .left) ∧
    levelOf (some .TIMES) = some (7, .left) ∧ levelOf (some .DIVIDE) = some (7, .left) ∧
    levelOf (some .POWER) = some (8, .right) ∧ levelOf (some .PIPE) = some (9, .left) ∧
    levelOf (some .DOT) = some (10, .left) ∧ levelOf (some .NOT) = some (11, .right) ∧
    levelOf none = some (12, .right) ∧ levelOf (some .LBRACKET) = some (13, .left) := by
  repeat' constructor
  all_goals decide

/-- or < and < comparisons/in < + - < * / < ** < pipe < method < not < unary minus < index -/
theorem level_order : (3 : Nat) < 4 ∧ 4 < 5 ∧ 5 < 6 ∧ 6 < 7 ∧ 7 < 8 ∧ 8 < 9 ∧ 9 < 10 ∧ 10 < 11 ∧
    notLevel = 11 ∧ uminusLevel = 12 ∧ inLevel = 5 := by decide

/-- **the operator loop decides by the table**: with a complete left operand in a context of
    level `m` and associativity `a`, a following operator `p` of level `l`, associativity `la`
    is consumed iff `l > m`, or `l = m` and the context is right-associative; at an equal
    non-associative level the input is rejected; otherwise the loop stops (the operator belongs
    to an enclosing context). -/
theorem binloop_decides_by_table (m : Nat) (a : Assoc) (p : Tk) (l : Nat) (la : Assoc)
    (hl : opLevel p = some (l, la)) :
    decide' m a p =
      if l > m ∨ (l = m ∧ a = .right) then .take l la
      else if l = m ∧ a = .nonassoc then .reject else .stop := by
  simp [decide', hl]

/-- a token that is not an operator / suffix / `if` ends the expression -/
theorem non_operator_stops (m : Nat) (a : Assoc) (p : Tk) (h : opLevel p = none) :
    decide' m a p = .stop := by
  simp [decide', h]

/-- every binary operator sits below level 9 (pipe), i.e. suffixes bind tighter than every binary
    operator; unary minus and `not` bind tighter than method / pipe suffixes but looser than indexing -/
theorem binary_below_suffixes (t : Tk) (ht : (binKind t).isSome = true) :
    ((levelOf (some t)).map (·.1)).all (· < 9) = true := by
  cases t <;> first | decide | (simp [binKind] at ht)

theorem unary_between_suffix_and_index :
    (9 < notLevel ∧ 10 < notLevel ∧ 10 < uminusLevel) ∧ (uminusLevel < 13 ∧ notLevel < 13) := by decide

/-- **complete** (expressions): unbounded — every derivation, any depth, any continuation -/
theorem complete_expr {m : Nat} {a : Assoc} {ts : List Token} {t : Op} {b : Bool} {nxt : LA}
    (h : RExpr m a ts t b nxt) :
    ∃ n, n ≤ 2 * ts.length + 1 ∧
      ∀ f, n ≤ f → ∀ tl, peekTy tl = nxt → pExpr f m a (ts ++ tl) = .ok ((t, b), tl) :=
  ⟨_, Nat.le_refl _, cExpr h⟩

/-- **complete** (statements): assignment, augmented assignment, `del e[k]`, `e[k] = v`, `e[k] op= v`,
    expression statements and the empty statement -/
theorem complete_stmt {ts : List Token} {s : Option Op} {nxt : LA} (h : RStmt ts s nxt) :
    ∀ f, 2 * ts.length + 1 ≤ f → ∀ tl, peekTy tl = nxt → pStatement f (ts ++ tl) = .ok (s, tl) := cStmt h

/-- **complete** (programs): every token list the levelled grammar derives as a program is accepted by the
    parser — with the fuel `parseTokens` itself supplies — and yields exactly the derived tree -/
theorem complete_program {ts : List Token} {out : List Op} (h : RCode [] ts out) :
    parseTokens ts = .ok (.code out) := complete h

/-- **sound** (expressions): whatever `pExpr` returns — any fuel, any context, any continuation — is a derivation
    of the consumed prefix, with the look-ahead the parser actually saw -/
theorem sound_expr {f m : Nat} {a : Assoc} {ts : List Token} {t : Op} {b : Bool} {tl : List Token}
    (h : pExpr f m a ts = .ok ((t, b), tl)) : ∃ ts0, ts = ts0 ++ tl ∧ RExpr m a ts0 t b (peekTy tl) := sExpr h

/-- **sound** (programs): an accepted token list is derivable, with exactly the returned tree -/
theorem sound_program {ts : List Token} {tree : Op} (h : parseTokens ts = .ok tree) :
    ∃ out, tree = .code out ∧ RCode [] ts out := sound h

/-- **the parser accepts exactly the levelled grammar, with exactly the derived tree**: for every token list
    and every tree -/
theorem parser_accepts_exactly_the_grammar (ts : List Token) (out : List Op) :
    parseTokens ts = .ok (.code out) ↔ RCode [] ts out := parse_iff ts out

/-- rejection is exactly non-derivability: the parser reports an error iff the relation derives no program -/
theorem rejected_iff_not_derivable (ts : List Token) :
    (∃ e, parseTokens ts = .error e) ↔ ¬ ∃ out, RCode [] ts out := by
  constructor
  · rintro ⟨e, he⟩ ⟨out, hr⟩
    rw [complete hr] at he
    cases he
  · intro hn
    cases hp : parseTokens ts with
    | error e => exact ⟨e, rfl⟩
    | ok tree =>
      obtain ⟨out, _, hr⟩ := sound hp
      exact absurd ⟨out, hr⟩ hn

/-- **[B] accepted ⇒ derivable in the published grammar**: every token list the parser accepts is a sentence of the
    context-free grammar whose productions are `Sq.cfg` — by `SqTie.cfg_is_generated` exactly the 77 productions PLY
    builds from /repo's rules.py in this run (`Der "S'"` = derivable from the start symbol; `tys` = the token types) -/
theorem accepted_is_derivable_in_published_grammar {ts : List Token} {tree : Op} (h : parseTokens ts = .ok tree) :
    Der "S'" (tys ts) :=
  have ⟨_, _, hr⟩ := sound h
  relation_derives_grammar hr

/-- … in particular everything the levelled relation derives (it adds only the operator table's choices) -/
theorem levelled_relation_refines_grammar {ts : List Token} {out : List Op} (h : RCode [] ts out) :
    Der "S'" (tys ts) := relation_derives_grammar h

/-- **the tree is unique**: the levelled grammar is unambiguous — two derivations of the same token list as a
    program derive the same tree (both are what the deterministic parser returns) -/
theorem derived_tree_unique {ts : List Token} {out out' : List Op} (h : RCode [] ts out) (h' : RCode [] ts out') :
    out = out' :=
  Op.code.inj (Except.ok.inj ((complete h).symm.trans (complete h')))

/-- … and likewise for expressions in any context: same tokens, same look-ahead ⇒ same tree -/
theorem derived_expr_unique {m : Nat} {a : Assoc} {ts : List Token} {t t' : Op} {b b' : Bool} {nxt : LA}
    (h : RExpr m a ts t b nxt) (h' : RExpr m a ts t' b' nxt) : t = t' ∧ b = b' := by
  have ⟨tl, htl⟩ : ∃ tl : List Token, peekTy tl = nxt := by
    cases nxt with
    | none => exact ⟨[], rfl⟩
    | some ty => exact ⟨[{ ty := ty, val := [], pos := 0, line := 0 }], rfl⟩
  simpa using (cExpr h _ (Nat.le_refl _) tl htl).symm.trans (cExpr h' _ (Nat.le_refl _) tl htl)

/-- non-vacuity: the relation derives `x = a + b * c ; y` (for any tokens of these types) with the table's
    grouping, so `complete_program` says the parser returns exactly that tree -/
theorem derivation_example {x eq a pl b ti c nl y : Token}
    (hx : x.ty = .NAME) (heq : eq.ty = .ASSIGN) (ha : a.ty = .NAME) (hpl : pl.ty = .PLUS) (hb : b.ty = .NAME)
    (hti : ti.ty = .TIMES) (hc : c.ty = .NAME) (hnl : nl.ty = .NEWLINE) (hy : y.ty = .NAME) :
    RCode [] [x, eq, a, pl, b, ti, c, nl, y]
      [.assign x.val (.bin .add (.name a.val) (.bin .mul (.name b.val) (.name c.val))), .name y.val] := by
  have hmul : RExpr 6 .left ([b] ++ [ti, c]) (.bin .mul (.name b.val) (.name c.val)) false (some .NEWLINE) :=
    RExpr.mk (RPrim.name hb (by simp [peekTy, hti]) (by simp [peekTy, hti]))
      (RSpine.bin (tsr := [c]) (rest := []) (lv := 7) (la := .left) (k := .mul) (by rw [hti]; rfl) (by rw [hti]; rfl)
        (RExpr.mk (ts0 := [c]) (ts := []) (RPrim.name hc (by simp [peekTy]) (by simp [peekTy])) (RSpine.nil rfl))
        (RSpine.nil rfl))
  have hadd : RExpr 0 .right ([a] ++ [pl, b, ti, c]) (.bin .add (.name a.val) (.bin .mul (.name b.val) (.name c.val)))
      false (some .NEWLINE) :=
    RExpr.mk (RPrim.name ha (by simp [peekTy, hpl]) (by simp [peekTy, hpl]))
      (RSpine.bin (tsr := [b, ti, c]) (rest := []) (lv := 6) (la := .left) (k := .add) (by rw [hpl]; rfl) (by rw [hpl]; rfl)
        hmul (RSpine.nil rfl))
  have hy' : RExpr 0 .right ([y] ++ []) (.name y.val) false none :=
    RExpr.mk (RPrim.name hy (by simp [peekTy]) (by simp [peekTy])) (RSpine.nil trivial)
  exact RCode.more (ts := [x, eq, a, pl, b, ti, c]) (RStmt.assign (Or.inr rfl) hx heq hadd) hnl
    (RCode.last (RStmt.expr (Or.inl rfl) hy'))

/-- redundant parentheses never change the tree: if `ts` reads as `e` inside parentheses, then
    `( ts )` reads as the same `e` wherever a primary may stand -/
theorem parens_read_as_inner {lp rp : Token} {ts : List Token} {e : Op} {b : Bool} {la : LA}
    (hl : lp.ty = .LPAREN) (hr : rp.ty = .RPAREN) (h : RExpr 0 .right ts e b (some .RPAREN)) :
    RPrim (lp :: ts ++ [rp]) e la := RPrim.paren hl h hr

/-- the three call styles denote the same call: `r.f(a…)`, `r | f(a…)` continue the spine with the
    very tree `f(r, a…)` that the prefix form builds -/
theorem method_and_pipe_same_tree {m : Nat} {a : Assoc} {l : Op} {b : Bool} {o1 o2 n lp : Token} {lv1 lv2 : Nat}
    {la1 la2 : Assoc} {tsa rest : List Token} {args : List Op} {t : Op} {bt : Bool} {nxt : LA}
    (h1 : o1.ty = .DOT) (d1 : decide' m a .DOT = .take lv1 la1) (h2 : o2.ty = .PIPE) (d2 : decide' m a .PIPE = .take lv2 la2)
    (hn : n.ty = .NAME) (hl : lp.ty = .LPAREN) (ha : RArgs .RPAREN tsa args)
    (hs : RSpine m a (.call n.val (l :: args)) false rest t bt nxt) :
    RSpine m a l b (o1 :: n :: lp :: tsa ++ rest) t bt nxt ∧ RSpine m a l b (o2 :: n :: lp :: tsa ++ rest) t bt nxt :=
  ⟨RSpine.dot h1 d1 hn hl ha hs, RSpine.pipe h2 d2 hn hl ha hs⟩

/-- an operator a context takes continues the spine with its right operand read at the operator's
    OWN level and associativity: this is "groups by the declared levels and associativity" -/
theorem operand_read_at_operator_level {m : Nat} {a : Assoc} {l : Op} {b : Bool} {o : Token} {lv : Nat} {la : Assoc}
    {k : BinK} {tsr rest : List Token} {r : Op} {br : Bool} {t : Op} {bt : Bool} {nxt : LA}
    (hd : decide' m a o.ty = .take lv la) (hk : binKind o.ty = some k)
    (he : RExpr lv la tsr r br ((peekTy rest).or nxt)) (hs : RSpine m a (.bin k l r) false rest t bt nxt) :
    RSpine m a l b (o :: tsr ++ rest) t bt nxt := RSpine.bin hd hk he hs

/-! finite tests inside Lean (tests, not the unbounded claim) -/
example : Proto.sameTree "a or b and c" "a or (b and c)" = true := by decide +kernel
example : Proto.sameTree "a and b or c" "(a and b) or c" = true := by decide +kernel
example : Proto.sameTree "a + b * c" "a + (b * c)" = true := by decide +kernel
example : Proto.sameTree "a * b + c" "(a * b) + c" = true := by decide +kernel
example : Proto.sameTree "a - b - c" "(a - b) - c" = true := by decide +kernel
example : Proto.sameTree "a / b * c" "(a / b) * c" = true := by decide +kernel
example : Proto.sameTree "a ** b ** c" "a ** (b ** c)" = true := by decide +kernel
example : Proto.sameTree "a * b ** c" "a * (b ** c)" = true := by decide +kernel
example : Proto.sameTree "a < b + c" "a < (b + c)" = true := by decide +kernel
example : Proto.sameTree "a + b < c" "(a + b) < c" = true := by decide +kernel
example : Proto.sameTree "a and b == c" "a and (b == c)" = true := by decide +kernel
example : Proto.sameTree "a in b or c" "(a in b) or c" = true := by decide +kernel
example : (Proto.outcome "a < b < c").1 = .syn := by decide +kernel
example : (Proto.outcome "a == b in c").1 = .syn := by decide +kernel
example : Proto.sameTree "a + b.f()" "a + (b.f())" = true := by decide +kernel
example : Proto.sameTree "a ** b | f" "a ** (b | f)" = true := by decide +kernel
example : Proto.sameTree "-a.f()" "(-a).f()" = true := by decide +kernel
example : Proto.sameTree "not a.f()" "(not a).f()" = true := by decide +kernel
example : Proto.sameTree "-a[0]" "-(a[0])" = true := by decide +kernel
example : Proto.sameTree "-a ** b" "(-a) ** b" = true := by decide +kernel
example : Proto.sameTree "a if b else c + d" "a if b else (c + d)" = true := by decide +kernel
example : Proto.sameTree "a + b if c else d" "(a + b) if c else d" = true := by decide +kernel
example : Proto.sameTree "x => a + b" "x => (a + b)" = true := by decide +kernel
example : Proto.sameTree "a + x => b + c" "a + (x => (b + c))" = true := by decide +kernel

/-- D7 (finding): `not in` is entered on the look-ahead NOT, whose level 11 makes the automaton
    shift after any lower operator: `a + b not in c` groups as `a + (b not in c)` although the
    table puts `in` (level 5) below `+` (level 6) -/
theorem not_in_counterexample :
    Proto.sameTree "a + b not in c" "a + (b not in c)" = true ∧
    Proto.sameTree "a + b in c" "(a + b) in c" = true := by decide +kernel

/-- D8 (finding): `(a) => a` is derivable from the published grammar
    (`LPAREN arglist_def RPAREN LAMBDA expression` with `arglist_def -> NAME`) but rejected -/
theorem paren_single_param_counterexample : (Proto.outcome "(a) => a").1 = .syn := by decide +kernel

end SqProps.C06
