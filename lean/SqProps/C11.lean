/-
  C11 — history independence: every call depends only on its own arguments.
  The session threads exactly the mutable per-parser state the code has (lexer fields left by the
  previous call, cache, the world of earlier evals).  The calls perform the code's resets and then
  read the fields from the session; the theorems say the results do not depend on what the session
  held; the examples show that without a reset they would (non-vacuity).
-/
import SqLemmas.SessionLemmas
namespace SqProps.C11
open Sq

/-- with all three resets the lexer starts every call from the initial state, whatever the
    previous call left behind -/
theorem resets_establish_init (st : LexSt) : applyResets Resets.all st = LexSt.init := applyResets_all st

/-- `parse` (no cache): the result is the parse function applied to the text from the initial
    lexer state — independent of the session -/
theorem parse_indep (pf : ParseFn) (pol : Policy) (s s' : Session) (expr : List Char)
    (h : s.cache = none) (h' : s'.cache = none) :
    (parseCall pf pol s expr).1 = (parseCall pf pol s' expr).1 := by
  rw [parseCall_none s h, parseCall_none s' h']

/-- `list_names` (consumed fully, partially, or not at all): independent of the session -/
theorem list_names_indep (s s' : Session) (expr : List Char) (limit : Option Nat) :
    (listNamesCall s expr limit).1 = (listNamesCall s' expr limit).1 := by
  rw [listNamesCall_eq, listNamesCall_eq]

inductive Call
  | parse (expr : List Char)
  | names (expr : List Char) (limit : Option Nat)

def runCall (pf : ParseFn) (pol : Policy) (s : Session) : Call → Session
  | .parse e => (parseCall pf pol s e).2
  | .names e l => (listNamesCall s e l).2

/-- without a cache, a parse / list_names call (whatever its outcome) writes the lexer fields only — which every call
    resets before reading them -/
theorem runCall_writes_lex_only (pf : ParseFn) (pol : Policy) (s : Session) (c : Call) (h : s.cache = none) :
    ∃ st, runCall pf pol s c = { s with lex := st } := by
  cases c with
  | parse e => exact ⟨_, by rw [runCall, parseCall_none s h]⟩
  | names e l => exact ⟨_, rfl⟩

theorem history_writes_lex_only (pf : ParseFn) (pol : Policy) (cs : List Call) (s : Session) (h : s.cache = none) :
    ∃ st, cs.foldl (runCall pf pol) s = { s with lex := st } :=
  cs.foldlRecOn (motive := fun s1 => ∃ st, s1 = { s with lex := st }) (runCall pf pol) ⟨s.lex, rfl⟩
    fun _ ⟨st1, h1⟩ c _ => by
      subst h1
      exact runCall_writes_lex_only pf pol { s with lex := st1 } c h

/-- a history of parse / list_names calls (any outcomes, generators abandoned anywhere) followed
    by a parse: the last result is what a fresh session gives -/
theorem history_indep_parse (pf : ParseFn) (pol : Policy) (cs : List Call) (s : Session) (h : s.cache = none)
    (expr : List Char) :
    (parseCall pf pol (cs.foldl (runCall pf pol) s) expr).1 = pf LexSt.init expr := by
  obtain ⟨st, hst⟩ := history_writes_lex_only pf pol cs s h
  rw [hst, parseCall_none { s with lex := st } h]

theorem history_indep_names (pf : ParseFn) (pol : Policy) (cs : List Call) (s : Session)
    (expr : List Char) (limit : Option Nat) :
    (listNamesCall (cs.foldl (runCall pf pol) s) expr limit).1 = (listNamesCall s expr limit).1 :=
  list_names_indep _ _ _ _

/-- **[B] `eval` after any history of parse / list_names calls** — successful, failed with lexical or syntax errors,
    generators abandoned midway — gives the result, the error and the world (names mappings, host objects, log) that the
    same `eval` gives without that history -/
theorem history_indep_eval (pf : ParseFn) (pol : Policy) (fuel : Nat) (cs : List Call) (s : Session) (h : s.cache = none)
    (expr : List Char) (namesAddr budget : Nat) :
    (evalCall pf pol fuel (cs.foldl (runCall pf pol) s) expr namesAddr budget).1 = (evalCall pf pol fuel s expr namesAddr budget).1 ∧
    (evalCall pf pol fuel (cs.foldl (runCall pf pol) s) expr namesAddr budget).2.world =
      (evalCall pf pol fuel s expr namesAddr budget).2.world := by
  obtain ⟨st, hst⟩ := history_writes_lex_only pf pol cs s h
  rw [hst]
  obtain ⟨hr, hw, -⟩ := evalCall_congr fuel namesAddr budget
    (parse_indep pf pol { s with lex := st } s (Str.rstrip expr) h h) rfl rfl
  exact ⟨hr, hw⟩

/-- `eval`: the parse stage is independent of the session; the evaluation runs on a *fresh* VM
    state carrying the caller's budget, whose scope stack holds only the caller's mapping -/
theorem eval_fresh_vm (w : World) (bs : List Nat) (namesAddr budget : Nat) (ast : Op) :
    let c := initCfg w bs namesAddr budget ast
    c.w.vms = w.vms ++ [{ scopes := [namesAddr], ops := 0 }] ∧ c.budgets = bs ++ [budget] ∧
    c.ctl = .ev ast w.vms.length ∧ c.k = [] :=
  ⟨rfl, rfl, rfl, rfl⟩

/-! non-vacuity: the lexer really reads the fields — WITHOUT the `paren_count` reset, a session
    left at depth 1 by an unbalanced earlier text lexes `1\n2` differently (the line break is
    swallowed); and a reset that is switched off leaves the field as the earlier call left it. -/
example :
    let stale : LexSt := { pos := 0, line := 1, depth := 1 }
    ((lexFrom stale "1\n2".toList).toOption.map (·.1.length), (lexFrom LexSt.init "1\n2".toList).toOption.map (·.1.length))
      = (some 2, some 3) := by decide +kernel

example :
    let noDepthReset : Resets := { depth := false }
    applyResets noDepthReset { pos := 7, line := 3, depth := 1 } = { pos := 0, line := 1, depth := 1 } := by decide

/-- D9 (finding): what is NOT independent — a lambda stored in a names mapping by an earlier
    `eval` keeps charging the VM state of the eval that created it.  The closure value records
    that VM index, and calling it evaluates the body on that VM (C10.call_pushes_scope), so its
    operations are counted against the old budget, not the current call's. -/
theorem closure_charges_creator_vm (fuel : Nat) (ps : List Op) (body : Op) (vmOld : Nat) (args : List Val)
    (k : List Frame) (w : World) (kvs : List (Val × Val)) (vm : VM)
    (hb : bindParams ps args [] = some kvs) (hv : w.vm? vmOld = some vm) :
    (callVal (fuel + 1) (.closure ps body vmOld) args k w).ctl = .ev body vmOld := by
  simp [callVal, callClosure, hb, hv]

end SqProps.C11
