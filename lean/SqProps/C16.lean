/-
  C16 — language-level failures are ParserErrors; nothing worse ever escapes.
  One classification theorem per listed failure; each is a statement about a single machine /
  builtin / parser transition with the surrounding continuation universally quantified, i.e. it
  holds at every syntactic position at which the failure can occur.  `PyErr` has no constructor
  for a non-`Exception` `BaseException`; that half of the property ("never a bare BaseException,
  never a crash") is decided by the fuzzing monitor and is labelled measured, not proved.
-/
import Sq.Session
import SqLemmas.MachineLemmas
import SqLemmas.ListRefine
namespace SqProps.C16
open Sq

/-- reading an undefined variable -/
theorem undefined_variable_is_parser_error (n : Name) (vmi : Nat) (k : List Frame) (w : World) (vm : VM)
    (hv : w.vm? vmi = some vm) (hl : lookupName w.heap vm.scopes n = none) :
    enter (.name n) vmi k w = mkRaise (.parser "Undefined variable") k w := by
  simp [enter, hv, hl]

/-- calling an undefined function (after its arguments were evaluated) -/
theorem undefined_function_is_parser_error (n : Name) (args : List Val) (vmi : Nat) (k : List Frame)
    (w : World) (vm : VM) (hv : w.vm? vmi = some vm) (hl : lookupName w.heap vm.scopes n = none) :
    doCall n args vmi k w = mkRaise (.parser "Undefined function") k w := by
  simp [doCall, hv, hl]

/-- compound assignment to an undefined name (`ShortOp` raises ParserError there; D2, repaired in /repo) -/
theorem undefined_in_compound_assign_is_parser_error (n : Name) (sk : ShortK) (vmi : Nat) (v v' : Val)
    (h' : Heap) (k : List Frame) (w : World) (vm : VM)
    (hc : deepcopy' w.heap v = .ok (v', h')) (hv : w.vm? vmi = some vm)
    (hl : lookupName h' vm.scopes n = none) :
    resume (.shortK n sk vmi) v k w = mkRaise (.parser "Undefined variable") k w := by
  simp [resume, hc, hv, hl]

/-- reading a missing key or an out-of-range index: `_get_item` converts LookupError -/
theorem missing_key_or_index_read_is_parser_error (s : BState) (c k k' : Val)
    (hk : keyCast s.heap c k = .ok k')
    (hm : pyGetItem s c k' = .error .keyError ∨ pyGetItem s c k' = .error .indexError) :
    bGetItem s c k = .error (.parser "Key error") := by
  rcases hm with hm | hm <;> simp [bGetItem, hk, hm]

/-- popping an empty list -/
theorem pop_empty_is_parser_error (s : BState) (a : Nat) (hg : s.heap.get? a = some (.list [])) :
    b_pop [.ref a] s = .error (.parser "pop from empty list") :=
  b_pop_list hg

/-- exceeding the op budget is reported as the ops-limit subclass of ParserError -/
theorem budget_is_ops_limit (c : Cfg) (op : Op) (vmi : Nat) (vm : VM) (N : Nat)
    (hctl : c.ctl = .ev op vmi) (hvm : c.w.vm? vmi = some vm) (hb : c.budgets[vmi]? = some N)
    (hlim : vm.ops + 1 ≥ N) :
    ∃ e, (step c).ctl = .raise e ∧ e.isParserError = true := by
  refine ⟨.opsLimit N, ?_, rfl⟩
  rw [step_ev hctl hvm hb, if_pos hlim]
  rfl

/-- every outcome of parsing a text is a tree or one of the three ParserError kinds (or the
    model's explicit `unmodelled`): there is no other way out of `parseLazy` -/
theorem parse_outcomes (st : LexSt) (src : List Char) :
    (∃ t, Proto.parseLazy st src = .ok t) ∨ (∃ c, Proto.parseLazy st src = .lexErr c) ∨
    (∃ p m, Proto.parseLazy st src = .synErr p m) ∨ (∃ m, Proto.parseLazy st src = .resErr m) ∨
    (∃ u, Proto.parseLazy st src = .unmodelled u) := by
  cases Proto.parseLazy st src <;> simp

/-- a syntax error at the very end of the text is reported as such (`p_error` handles end of input; D1, repaired in /repo) -/
theorem end_of_input_message : Proto.syntaxMessage [] = "Syntax error: unexpected end of input".toList := rfl

example : Proto.outcome "1 +" = (.syn, "Syntax error: unexpected end of input".toList) := by decide +kernel
example : Proto.outcome "f(" = (.syn, "Syntax error: unexpected end of input".toList) := by decide +kernel
example : Proto.outcome "x = for" = (.res, "for is reserved keyword".toList) := by decide +kernel
example : Proto.outcome "1 $" = (.lex, "Illegal character $".toList) := by decide +kernel

end SqProps.C16
