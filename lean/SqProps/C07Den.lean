/-
  C07 — [B] a reference semantics defined independently of the machine, and proved to agree with it.
  `Sq/Denote.lean` defines `evalOp` compositionally (the meaning of a node from the meanings of its children).  The abstract
  machine — the model the correspondence check ties to the implementation — computes exactly that: every outcome of the
  semantics is reached, every finished run is an outcome, more fuel changes nothing (`SqLemmas/DenoteSound.lean`); likewise a
  whole `eval` call, AST-supplied names included (`SqLemmas/DenoteAst.lean`).
-/
import Sq.Denote
import SqLemmas.DenoteSound
import SqLemmas.DenoteAst
namespace SqProps.C07Den
open Sq Sq.Den

/-- **the machine implements the compositional semantics**: whenever the semantics gives a node the outcome `o` (a value
    or an error) and the world `w'`, the machine started on that node reaches exactly `o` and `w'` — same value, heap,
    scopes, operation counters and log — and does not leave the node's own continuation before -/
theorem machine_implements_semantics (B : List Nat) (f : Nat) (op : Op) (vmi : Nat) (w : World) (o : Out) (w' : World)
    (h : evalOp B f op vmi w = some (o, w')) :
    ∃ n, run n { ctl := .ev op vmi, k := [], w := w, budgets := B } = { ctl := o.ctl, k := [], w := w', budgets := B } ∧
      ∀ i, i < n → ¬ Underflow (run i { ctl := .ev op vmi, k := [], w := w, budgets := B }).core :=
  evalOp_sound f op vmi w o w' h

/-- … for a whole `eval` call: the machine halts with the outcome and world the semantics prescribes -/
theorem eval_call_implements_semantics (f : Nat) (w : World) (bs : List Nat) (namesAddr budget : Nat) (ast : Op) (o : Out)
    (w' : World)
    (h : evalOp (bs ++ [budget]) f ast w.vms.length
          { w with vms := w.vms ++ [{ scopes := [namesAddr], ops := 0 }] } = some (o, w')) :
    ∃ n, ∀ m, run (n + 1 + m) (initCfg w bs namesAddr budget ast) =
      { ctl := o.halt, k := [], w := w', budgets := bs ++ [budget] } :=
  eval_call_sound f w bs namesAddr budget ast o w' h

/-- … and for every function value applied to arguments (lambdas, builtins, the higher-order builtins, host callbacks) -/
theorem application_implements_semantics (B : List Nat) (f tf : Nat) (fn : Val) (args : List Val) (w : World) (o : Out)
    (w' : World) (h : applyVal B f tf fn args w = some (o, w')) :
    ∃ n, run n ((callVal tf fn args [] w).withBudgets B) = { ctl := o.ctl, k := [], w := w', budgets := B } ∧
      ∀ i, i < n → ¬ Underflow (run i ((callVal tf fn args [] w).withBudgets B)).core :=
  applyVal_sound f tf fn args w o w' h

/-- more fuel never changes a verdict -/
theorem semantics_is_monotone_in_fuel (B : List Nat) (f g : Nat) (hfg : f ≤ g) (op : Op) (vmi : Nat) (w : World)
    (r : Out × World) (h : evalOp B f op vmi w = some r) : evalOp B g op vmi w = some r :=
  evalOp_mono hfg h

/-- **the meaning does not depend on the fuel**: any two fuels that suffice give the same outcome and world -/
theorem semantics_is_fuel_independent (B : List Nat) (f1 f2 : Nat) (op : Op) (vmi : Nat) (w : World) (r1 r2 : Out × World)
    (h1 : evalOp B f1 op vmi w = some r1) (h2 : evalOp B f2 op vmi w = some r2) : r1 = r2 :=
  evalOp_fuel_irrelevant f1 f2 op vmi w r1 r2 h1 h2

/-- **the machine computes nothing the semantics does not prescribe**: whenever the machine, started on a node alone,
    finishes — returns a value or raises an error to an empty continuation, for the first time, after any number `n` of
    steps — some fuel makes `evalOp` yield exactly that outcome and world -/
theorem semantics_covers_machine (B : List Nat) (op : Op) (vmi : Nat) (w : World) (n : Nat) (o : Out) (w' : World)
    (h : run n { ctl := .ev op vmi, k := [], w := w, budgets := B } = { ctl := o.ctl, k := [], w := w', budgets := B })
    (hu : ∀ i, i < n → ¬ Underflow (run i { ctl := .ev op vmi, k := [], w := w, budgets := B }).core) :
    ∃ f, evalOp B f op vmi w = some (o, w') :=
  evalOp_complete op vmi w n o w' h hu

/-- **semantics and machine define the same relation** between a node in a world and its outcome and final world -/
theorem semantics_iff_machine (B : List Nat) (op : Op) (vmi : Nat) (w : World) (o : Out) (w' : World) :
    (∃ f, evalOp B f op vmi w = some (o, w')) ↔
    (∃ n, run n { ctl := .ev op vmi, k := [], w := w, budgets := B } = { ctl := o.ctl, k := [], w := w', budgets := B } ∧
      ∀ i, i < n → ¬ Underflow (run i { ctl := .ev op vmi, k := [], w := w, budgets := B }).core) :=
  ⟨fun ⟨f, hf⟩ => evalOp_sound f op vmi w o w' hf, fun ⟨n, h, hu⟩ => evalOp_complete op vmi w n o w' h hu⟩

/-- **`eval` returns exactly what the semantics prescribes**: the machine started by `initCfg` for one `eval` call halts
    with `done v` (resp. `failed e`) in world `w'` after some number of steps IF AND ONLY IF the compositional semantics
    gives the program the outcome `ret v` (resp. `raise e`) and the world `w'` for some fuel — same value or error, same
    host names, same heap, same operation count -/
theorem eval_call_iff_semantics (w : World) (bs : List Nat) (namesAddr budget : Nat) (ast : Op) (o : Out) (w' : World) :
    (∃ N, run N (initCfg w bs namesAddr budget ast) = { ctl := o.halt, k := [], w := w', budgets := bs ++ [budget] }) ↔
    (∃ f, evalOp (bs ++ [budget]) f ast w.vms.length { w with vms := w.vms ++ [{ scopes := [namesAddr], ops := 0 }] } =
      some (o, w')) :=
  eval_call_iff w bs namesAddr budget ast [] o w'

/-- **… including AST-supplied names** (`ast_names`: each entry evaluated in turn and bound in the host's mapping, then the
    program — `evalAst`): the machine started by `initCfg` halts with `done v` / `failed e` in world `w'` if and only if
    the semantics prescribes `ret v` / `raise e` and `w'`.  This covers every way `SqParser.eval` starts an evaluation. -/
theorem eval_call_iff_semantics_with_ast_names (w : World) (bs : List Nat) (namesAddr budget : Nat) (ast : Op)
    (astNames : List (Name × Op)) (o : Out) (w' : World) :
    (∃ N, run N (initCfg w bs namesAddr budget ast astNames) = { ctl := o.halt, k := [], w := w', budgets := bs ++ [budget] }) ↔
    (∃ f, evalAst (bs ++ [budget]) f astNames ast w.vms.length
      { w with vms := w.vms ++ [{ scopes := [namesAddr], ops := 0 }] } = some (o, w')) :=
  eval_call_iff w bs namesAddr budget ast astNames o w'

/-- a world with one VM state and an empty host scope -/
def w1 : World := { heap := #[.dict []], vms := [{ scopes := [0], ops := 0 }], log := [], rng := 0, rx := [], probes := [] }

/-- `f = (a) => a + a ; f(2)` as a tree -/
def prog : Op :=
  .code [.assign ['f'] (.lambda [.name ['a']] (.bin .add (.name ['a']) (.name ['a']))),
         .call ['f'] [.value (.num ⟨false, 2, 0⟩)]]

/-- the observable part of a result: returned decimal or ops-limit error, and the operations charged to VM 0 -/
def observe (r : Res) : Option (Option Dec × Option Nat × Option Nat) :=
  r.map fun p =>
    ((match p.1 with | .ret (.dec d _) => some d | _ => none),
     (match p.1 with | .raise (.opsLimit m) => some m | _ => none),
     (p.2.vm? 0).map (·.ops))

/-- non-vacuity: the semantics is defined on a program with an assignment, a lambda, a call and arithmetic: value 4,
    eight node evaluations charged -/
example : observe (evalOp [100] 20 prog 0 w1) = some (some ⟨false, 4, 0⟩, none, some 8) := by decide +kernel

/-- … and with the budget 5 the same program raises the ops-limit error at the 5th node -/
example : observe (evalOp [5] 20 prog 0 w1) = some (none, some 5, some 5) := by decide +kernel

end SqProps.C07Den
