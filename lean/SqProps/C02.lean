/-
  C02 — sandbox confinement: programs only touch plain data and do no I/O.
  Model-level content: the value domain separates plain data (None, bool, numbers, str, tuple,
  slice, list / dict references), callables the language itself provides (builtin, closure, host)
  and `opaque` — any Python object that is NOT plain data.  [A]: literals and operators never
  produce an opaque value; the builtins that wrap library calls return lists / strings, not views,
  iterators or match objects; the machine's event type has no I/O constructor.  D15 (finding):
  subscripting the builtin `dict` (the *type*) yields a `types.GenericAlias`.  The I/O half of the
  property is carried by the external-call whitelist tie (SqTie.Imports) and the audit-hook
  monitor, not by a semantic theorem about CPython.
  [B] `every_builtin_returns_plain_data` (the 42 entries of the table, from `Inv.table_ok` of SqLemmas/InvAll.lean): plain
  arguments, a plain heap and plain regex-engine answers give a plain result and leave heap and answers plain — the
  ONLY exception being an index read whose container is the type object `dict` (D15).  `copy.deepcopy`, all arithmetic
  primitives and the in-place operators are covered on the way.  `plain_step` / `plain_run` (SqLemmas/PlainLemmas.lean):
  the same for the whole machine — control, every continuation frame, iteration state, heap, probe table — over whole runs.
-/
import SqProps.C13
import SqLemmas.PlainLemmas
namespace SqProps.C02
open Sq

def notOpaque : Val → Prop
  | .opaque _ => False
  | _ => True

/-- literals evaluate to plain scalars -/
theorem literal_plain (l : Lit) (vm : Nat) (k : List Frame) (w : World) :
    ∃ v, enter (.value l) vm k w = mkRet v k w ∧ notOpaque v := by
  cases l <;> exact ⟨_, rfl, trivial⟩

/-- a lambda expression evaluates to a closure of the language (not a Python function object
    the program could introspect: closures have no attributes in the language — there is no
    attribute access in the grammar, SqTie.grammar_tie) -/
theorem lambda_is_closure (ps : List Op) (b : Op) (vm : Nat) (k : List Frame) (w : World) :
    enter (.lambda ps b) vm k w = mkRet (.closure ps b vm) k w := rfl

/-- comparison and membership operators return booleans -/
theorem comparisons_return_bool (w : World) (bk : BinK) (a b v : Val) (w' : World)
    (hk : bk = .eq ∨ bk = .ne ∨ bk = .lt ∨ bk = .gt ∨ bk = .le ∨ bk = .ge ∨ bk = .isin ∨ bk = .notin)
    (h : applyBin w bk a b = .ok (v, w')) : ∃ t, v = .bool t := by
  have map_bool : ∀ {e : R Bool} {g : Bool → Bool}, e.map (fun r => (Val.bool (g r), w)) = .ok (v, w') → ∃ t, v = .bool t
    | .ok _, _, h => by cases h; exact ⟨_, rfl⟩
  rcases hk with rfl | rfl | rfl | rfl | rfl | rfl | rfl | rfl <;> exact map_bool h

/-- `not` returns a boolean -/
theorem not_returns_bool (w : World) (a : Val) : applyUn w .not a = .ok (.bool (!truthy w.heap a)) := rfl

/-- `keys` / `values` / `items` / `enumerate` / `reversed` return LISTS (new heap objects), not
    dict views or iterators: a successful result is a value-with-unchanged-heap or a freshly
    allocated list / dict (C13.Harmless) -/
theorem views_are_lists (args : List Val) (s : BState) :
    C13.Harmless s (b_keys args s) ∧ C13.Harmless s (b_values args s) ∧ C13.Harmless s (b_items args s) ∧
    C13.Harmless s (b_enumerate args s) ∧ C13.Harmless s (b_reversed args s) :=
  ⟨C13.keys_harmless args s, C13.values_harmless args s, C13.items_harmless args s,
   C13.enumerate_harmless args s, C13.reversed_harmless args s⟩

/-- the machine can record only host-probe calls and swallowed exceptions: there is no event
    for file, process, network, import or dynamic-code activity -/
theorem effects_closed (e : Event) : (∃ a, e = .probe a) ∨ (∃ c, e = .caught c) := by
  cases e with
  | probe a => exact Or.inl ⟨a, rfl⟩
  | caught c => exact Or.inr ⟨c, rfl⟩

/-- D15 (finding): `dict[k]` subscripts the builtin *type* and yields a non-plain object -/
theorem dict_alias_counterexample (s : BState) (k : Val) :
    pyGetItem s (.builtin "dict") k = .ok (.opaque "GenericAlias", s) := by
  simp [pyGetItem, ret]

/-- … and only `dict`: subscripting any other builtin or a closure is a TypeError -/
theorem other_callables_not_subscriptable (s : BState) (ps : List Op) (b : Op) (vm : Nat) (k : Val) :
    pyGetItem s (.closure ps b vm) k = .error .typeError := by
  simp [pyGetItem]

/-- **[B] every builtin returns plain data**: for every entry of the builtin table, all argument lists and states —
    if no argument, no heap object and no regex-engine answer contains a non-plain Python object, then neither does the
    result, the heap afterwards, nor the answers left; unless the first argument is the type object `dict` (D15) -/
theorem every_builtin_returns_plain_data : ∀ p, p ∈ callPureTable → ∀ args s v s', AllNP args → StNP s →
    args.head? ≠ some (.builtin "dict") → p.2 args s = .ok (v, s') → NP v ∧ StNP s' :=
  fun p hp args s v s' ha hs hnd h =>
    (Inv.table_np p hp args s v s' (fun v hv => (ha v hv).inv) hs.inv (.inr (.inl hnd)) h).imp NP.of_inv StNP.of_inv

theorem builtin_call_returns_plain_data (name : String) (args : List Val) (s : BState) (v : Val) (s' : BState)
    (ha : AllNP args) (hs : StNP s) (hnd : args.head? ≠ some (.builtin "dict"))
    (h : callPure name args s = .ok (v, s')) : NP v ∧ StNP s' :=
  have ⟨_, p, hp, _, h⟩ := callPure_ok h
  every_builtin_returns_plain_data p hp args s v s' ha hs hnd h

/-- `NP` really excludes the non-plain objects, at any depth -/
theorem np_excludes_opaque (k : String) (vs ws : List Val) : ¬ NP (.tuple (vs ++ [.tuple (.opaque k :: ws)])) := by
  intro h
  cases h with
  | tuple hall =>
    have := hall (.tuple (.opaque k :: ws)) (by simp)
    cases this with
    | tuple h2 =>
      have := h2 (.opaque k) (by simp)
      cases this

/-- stored copies are plain too: `copy.deepcopy` of plain data in a plain heap -/
theorem deepcopy_returns_plain_data {h : Heap} {v v' : Val} {h' : Heap} (hh : HeapNP h) (hv : NP v)
    (hc : deepcopy' h v = .ok (v', h')) : HeapNP h' ∧ NP v' :=
  (Inv.deepcopy'_np hh.inv hv.inv hc).symm.imp HeapNP.of_inv NP.of_inv

/-- **[B] plain_step**: if every value of a configuration (control, continuation frames incl. iteration state, heap,
    regex answers, probe table) is plain data and the type object `dict` is not among them, then after one machine
    step — whatever it does: any builtin, lambda call, map / filter / reduce / sorted, host callback, assignment with its
    deep copy, error unwinding — every value of the configuration is plain data -/
theorem plain_data_is_closed_under_steps (budgets : List Nat) (c : Core) (hc : CorePD c) : CoreNP (stepCore budgets c) :=
  plain_step budgets c hc

/-- … and along whole runs, as long as the type object `dict` does not turn up as a value (the D15 side condition) -/
theorem plain_data_along_runs (n : Nat) (c : Cfg) (h0 : CorePD c.core)
    (hfree : ∀ i, i < n → CoreNP (run (i + 1) c).core → CorePD (run (i + 1) c).core) :
    ∀ i, i ≤ n → CoreNP (run i c).core := fun i _ => plain_run c h0.np i

/-- non-vacuity: a configuration about to evaluate `1 + 2` over a heap holding one empty names mapping satisfies the
    hypothesis of `plain_step` -/
example : CorePD ({ ctl := .ev (.bin .add (.value (.num (Dec.ofInt 1))) (.value (.num (Dec.ofInt 2)))) 0, k := [], w := { heap := #[.dict []], vms := [{ scopes := [0], ops := 0 }], log := [], rng := 1, rx := [], probes := [] } } : Core) := by
  refine ⟨trivial, fun fr h => (by cases h), ⟨?_, fun a h => (by cases h), fun p h => (by cases h)⟩⟩
  intro a o hg
  match a, hg with
  | 0, hg =>
    have : o = .dict [] := by simp [Heap.get?] at hg; exact hg.symm
    subst this
    exact fun kv h => by cases h
  | n + 1, hg => simp [Heap.get?] at hg

end SqProps.C02
