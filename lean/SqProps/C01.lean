/-
  C01 — the op budget is enforced exactly, on every evaluation path (`Sq.step` / `Sq.run` model ast_ops.py's `Op.eval` protocol).
  A node evaluation is charged before it has any effect and nothing else is charged, so each VM's counter counts the node
  evaluations started on it (`ops_counted`); runs that differ only in their budgets go in lock-step until the smaller budget
  is reached (`run_lockstep`); there, with no `try` pending, the run fails, its effects a prefix of the other's (`aborted_prefix`).
-/
import SqLemmas.Local
namespace SqProps.C01
open Sq

/-- the configuration is about to start an operation that reaches the budget of its VM -/
def HitsLimit (c : Cfg) : Prop :=
  ∃ op vmi vm N, c.ctl = .ev op vmi ∧ c.w.vm? vmi = some vm ∧ c.budgets[vmi]? = some N ∧ vm.ops + 1 ≥ N

/-- **charge first**: the operation that reaches the budget is charged and raises the ops-limit
    error (a `ParserError` subclass) *before it has any effect*: control becomes `raise`, the op
    counter of that VM is advanced, and nothing else — heap, scopes, log, continuation — changes. -/
theorem charge_first (c : Cfg) (op : Op) (vmi : Nat) (vm : VM) (N : Nat)
    (hctl : c.ctl = .ev op vmi) (hvm : c.w.vm? vmi = some vm) (hb : c.budgets[vmi]? = some N)
    (hlim : vm.ops + 1 ≥ N) :
    step c = { c with ctl := .raise (.opsLimit N),
                      w := c.w.setVM vmi { vm with ops := vm.ops + 1 } } := by
  rw [step_ev hctl hvm hb, if_pos hlim]; rfl

theorem opsLimit_is_parser_error (N : Nat) : (PyErr.opsLimit N).isParserError = true := rfl

/-- below the budget the operation is charged exactly once and then dispatched -/
theorem charge_then_enter (c : Cfg) (op : Op) (vmi : Nat) (vm : VM) (N : Nat)
    (hctl : c.ctl = .ev op vmi) (hvm : c.w.vm? vmi = some vm) (hb : c.budgets[vmi]? = some N)
    (hlim : vm.ops + 1 < N) :
    step c = (enter op vmi c.k (c.w.setVM vmi { vm with ops := vm.ops + 1 })).withBudgets c.budgets := by
  rw [step_ev hctl hvm hb, if_neg (by omega)]

/-- `stepCore` reads the budgets only through the limit test: two budget assignments under which
    the current configuration does not hit the limit give the same step. -/
theorem stepCore_budget_irrelevant (B B' : List Nat) (c : Core)
    (h : ∀ op vmi, c.ctl = .ev op vmi →
        ∃ vm N M, c.w.vm? vmi = some vm ∧ B[vmi]? = some N ∧ B'[vmi]? = some M ∧ vm.ops + 1 < N ∧ vm.ops + 1 < M) :
    stepCore B c = stepCore B' c := by
  apply stepCore_congr
  intro op vmi hc
  obtain ⟨vm, N, M, hvm, hN, hM, h1, h2⟩ := h op vmi hc
  rw [charge_eq_some hvm hN, charge_eq_some hvm hM, if_neg (by omega), if_neg (by omega)]

def BudgetsLe (B B' : List Nat) : Prop :=
  B.length = B'.length ∧ ∀ (i N : Nat), B[i]? = some N → ∃ M : Nat, B'[i]? = some M ∧ N ≤ M

def SameCore (c c' : Cfg) : Prop := c.core = c'.core

def Valid (c : Cfg) : Prop :=
  ∀ op vmi, c.ctl = .ev op vmi → ∃ vm N, c.w.vm? vmi = some vm ∧ c.budgets[vmi]? = some N

/-- **lock-step, one step**, for every configuration: a VM index without a state or a budget has none on the other side
    either (`BudgetsLe` fixes the length) -/
theorem step_lockstep (c c' : Cfg) (hs : SameCore c c') (hle : BudgetsLe c.budgets c'.budgets) (hno : ¬ HitsLimit c) :
    SameCore (step c) (step c') := by
  show stepCore c.budgets c.core = stepCore c'.budgets c'.core
  rw [← hs]
  apply stepCore_congr
  intro op vmi hc
  show charge c.w c.budgets vmi = charge c.w c'.budgets vmi
  cases hvm : c.w.vm? vmi with
  | none => unfold charge; rw [hvm]
  | some vm =>
    cases hN : c.budgets[vmi]? with
    | none =>
      have hM : c'.budgets[vmi]? = none := by
        rw [List.getElem?_eq_none_iff] at hN ⊢; rw [← hle.1]; exact hN
      unfold charge; rw [hN, hM]
    | some N =>
      obtain ⟨M, hM, hNM⟩ := hle.2 vmi N hN
      have hlt : ¬ vm.ops + 1 ≥ N := fun h => hno ⟨op, vmi, vm, N, hc, hvm, hN, h⟩
      rw [charge_eq_some hvm hN, charge_eq_some hvm hM, if_neg hlt, if_neg (by omega)]

/-- one step of lock-step simulation: if the smaller-budget run does not hit its limit here,
    the larger-budget run does exactly the same thing. -/
theorem step_mono (c c' : Cfg) (hs : SameCore c c') (hle : BudgetsLe c.budgets c'.budgets)
    (hvalid : Valid c) (hno : ¬ HitsLimit c) :
    SameCore (step c) (step c') :=
  step_lockstep c c' hs hle hno

/-- **lock-step, whole runs**: as long as the first run reaches no limit, the second run does the same steps -/
theorem run_lockstep (n : Nat) (c c' : Cfg) (hs : SameCore c c') (hle : BudgetsLe c.budgets c'.budgets)
    (hno : ∀ i, i < n → ¬ HitsLimit (run i c)) : SameCore (run n c) (run n c') := by
  induction n generalizing c c' with
  | zero => exact hs
  | succ n ih =>
    exact ih (step c) (step c') (step_lockstep c c' hs hle (hno 0 (by omega))) hle
      (fun i hi => hno (i + 1) (by omega))

/-- **monotone in N**: run `n` steps from two configurations that differ only in their budgets,
    the second having budgets at least as large.  If the first run never reaches a limit, the
    second run is in lock-step with it: same control, continuation, heap, scopes, counters, log. -/
theorem budget_mono (n : Nat) (c c' : Cfg) (hs : SameCore c c') (hle : BudgetsLe c.budgets c'.budgets)
    (hvalid : ∀ i, i < n → Valid (run i c)) (hno : ∀ i, i < n → ¬ HitsLimit (run i c)) :
    SameCore (run n c) (run n c') :=
  run_lockstep n c c' hs hle hno

/-- **every operation is charged exactly once, and nothing else is charged**: a step that starts
    an operation (`ev`) on VM `i` advances exactly that VM's counter by one — whether or not the limit
    is reached, and whatever the node kind — … -/
theorem ev_charges_one (c : Cfg) (op : Op) (i : Nat) (vm : VM) (N : Nat)
    (hctl : c.ctl = .ev op i) (hvm : c.w.vm? i = some vm) (hb : c.budgets[i]? = some N) :
    opsOf (step c).w = (opsOf c.w).set i (vm.ops + 1) := by
  rw [step_ev hctl hvm hb]
  split
  · exact opsOf_setVM_ops c.w i vm _
  · exact ((enter_local op i _).ops_at c.k).trans (opsOf_setVM_ops c.w i vm _)

/-- … and a step that returns a value to a frame, unwinds an error, or sits in a final state
    charges nothing (so lambda bodies driven by map / filter / reduce / sorted / host callbacks are
    charged through their own `ev` steps and only through them) -/
theorem other_steps_charge_nothing : ∀ (c : Cfg), (∀ op i, c.ctl ≠ .ev op i) → opsOf (step c).w = opsOf c.w
  | ⟨.ev op i, _, _, _⟩, h => absurd rfl (h op i)
  | ⟨.ret v, fr :: k, w, _⟩, _ => (resume_local fr v w).ops_at k
  | ⟨.raise e, fr :: k, w, _⟩, _ => (unwind_local fr e w).ops_at k
  | ⟨.ret _, [], _, _⟩, _ | ⟨.raise _, [], _, _⟩, _ | ⟨.done _, _, _, _⟩, _ | ⟨.failed _, _, _, _⟩, _ => rfl

def noTry : List Frame → Prop
  | [] => True
  | .tryK :: _ => False
  | _ :: k => noTry k

/-- with no catching host frame on the continuation, a raised error reaches the top: after at most
    `k.length + 1` steps the run has failed with that very error, and unwinding appends no event -/
theorem raise_unwinds_to_failed (e : PyErr) : ∀ (k : List Frame) (w : World) (bs : List Nat), noTry k →
    ∃ w', run (k.length + 1) { ctl := .raise e, k := k, w := w, budgets := bs } =
            { ctl := .failed e, k := [], w := w', budgets := bs } ∧ w'.log = w.log ∧ w'.heap = w.heap
  | [], w, _, _ => ⟨w, rfl, rfl, rfl⟩
  | fr :: k, w, bs, hnt => by
    have hfr : fr ≠ .tryK := fun h => by subst h; exact hnt
    have hk : noTry k := by
      cases fr with
      | tryK => exact absurd rfl hfr
      | _ => exact hnt
    obtain ⟨w1, hs, hl, hh⟩ := unwind_passes hfr e k w
    obtain ⟨w', hr, hl', hh'⟩ := raise_unwinds_to_failed e k w1 bs hk
    refine ⟨w', ?_, hl'.trans hl, hh'.trans hh⟩
    show run (k.length + 1) ((unwind fr e k w).withBudgets bs) = _
    rw [hs]
    exact hr

/-- **the N-th operation aborts the run** (hosts that propagate errors): when the operation that
    reaches the budget is started and no `try_apply` frame is pending, the run ends with the
    ops-limit error, the heap and the log being exactly what they were before that operation -/
theorem limit_is_fatal_without_try (c : Cfg) (op : Op) (vmi : Nat) (vm : VM) (N : Nat)
    (hctl : c.ctl = .ev op vmi) (hvm : c.w.vm? vmi = some vm) (hb : c.budgets[vmi]? = some N)
    (hlim : vm.ops + 1 ≥ N) (hnt : noTry c.k) :
    ∃ w', run (c.k.length + 2) c = { ctl := .failed (.opsLimit N), k := [], w := w', budgets := c.budgets } ∧
          w'.log = c.w.log ∧ w'.heap = c.w.heap := by
  have h1 := charge_first c op vmi vm N hctl hvm hb hlim
  obtain ⟨w', hr, hl, hh⟩ := raise_unwinds_to_failed (.opsLimit N) c.k (c.w.setVM vmi { vm with ops := vm.ops + 1 }) c.budgets hnt
  refine ⟨w', ?_, hl, hh⟩
  show run (c.k.length + 1) (step c) = _
  rw [h1]
  exact hr

/-- the host-visible log only grows, along any run (newest event first) -/
theorem log_only_grows (n : Nat) (c : Cfg) : ∃ new, (run n c).w.log = new ++ c.w.log := run_log n c

/-- **the effects of an aborted run are a prefix of those of every longer-budget run** (hosts that propagate
    errors).  Two runs from the same start whose budgets differ, `c'` having at least the budgets of `c`.
    Suppose the smaller-budget run first reaches its limit at step `n` with no catching host frame pending.  Then
    * it ends, `|k| + 2` steps later, with the ops-limit error, its heap and log being those of step `n`;
    * up to step `n` the larger-budget run was in lock-step (same control, heap, scopes, counters, log);
    * at every later moment the larger-budget run's log is the aborted run's final log plus newer events. -/
theorem aborted_prefix (n : Nat) (c c' : Cfg) (hs : SameCore c c') (hle : BudgetsLe c.budgets c'.budgets)
    (hvalid : ∀ i, i < n → Valid (run i c)) (hno : ∀ i, i < n → ¬ HitsLimit (run i c))
    (op : Op) (vmi : Nat) (vm : VM) (N : Nat)
    (hctl : (run n c).ctl = .ev op vmi) (hvm : (run n c).w.vm? vmi = some vm)
    (hb : (run n c).budgets[vmi]? = some N) (hlim : vm.ops + 1 ≥ N) (hnt : noTry (run n c).k) :
    ∃ wf, run (n + ((run n c).k.length + 2)) c =
            { ctl := .failed (.opsLimit N), k := [], w := wf, budgets := (run n c).budgets } ∧
          wf.heap = (run n c).w.heap ∧ wf.log = (run n c).w.log ∧
          SameCore (run n c) (run n c') ∧
          ∀ m, ∃ newer, (run (n + m) c').w.log = newer ++ wf.log := by
  obtain ⟨wf, hr, hl, hh⟩ := limit_is_fatal_without_try (run n c) op vmi vm N hctl hvm hb hlim hnt
  have hsame := run_lockstep n c c' hs hle hno
  refine ⟨wf, run_trans rfl hr, hh, hl, hsame, fun m => ?_⟩
  obtain ⟨newer, hn⟩ := run_log m (run n c')
  exact ⟨newer, by rw [run_add, hn, hl, show (run n c').w = (run n c).w from (congrArg Core.w hsame).symm]⟩

def startsOn (c : Cfg) (i : Nat) : Nat :=
  match c.ctl with
  | .ev _ j => if j = i then 1 else 0
  | _ => 0

def evCount : Nat → Cfg → Nat → Nat
  | 0, _, _ => 0
  | n + 1, c, i => startsOn c i + evCount n (step c) i

theorem step_counts (c : Cfg) (hv : Valid c) (i : Nat) :
    (opsOf (step c).w)[i]? = ((opsOf c.w)[i]?).map (· + startsOn c i) := by
  by_cases hev : ∃ op j, c.ctl = .ev op j
  · obtain ⟨op, j, hc⟩ := hev
    obtain ⟨vm, N, hvm, hb⟩ := hv op j hc
    have hj : (opsOf c.w)[j]? = some vm.ops := by
      unfold opsOf World.vm? at *
      rw [List.getElem?_map, hvm]; rfl
    have hs : startsOn c i = if j = i then 1 else 0 := by unfold startsOn; rw [hc]
    rw [ev_charges_one c op j vm N hc hvm hb, List.getElem?_set, hs]
    by_cases hji : j = i
    · subst hji
      rw [if_pos rfl, if_pos (List.getElem?_eq_some_iff.mp hj).1, if_pos rfl, hj]; rfl
    · rw [if_neg hji, if_neg hji]
      cases (opsOf c.w)[i]? <;> rfl
  · have hs : startsOn c i = 0 := by
      unfold startsOn
      split
      · next op j hc => exact absurd ⟨op, j, hc⟩ hev
      · rfl
    rw [other_steps_charge_nothing c (fun op j h => hev ⟨op, j, h⟩), hs]
    cases (opsOf c.w)[i]? <;> rfl

/-- **the op counter of every VM equals its initial value plus the number of operations started on it**, after
    any number of steps of any run (every node evaluation is charged exactly once, nothing else is) -/
theorem ops_counted (n : Nat) (c : Cfg) (hvalid : ∀ k, k < n → Valid (run k c)) (i : Nat) :
    (opsOf (run n c).w)[i]? = ((opsOf c.w)[i]?).map (· + evCount n c i) := by
  induction n generalizing c with
  | zero => simp [run, evCount]
  | succ n ih =>
    rw [run, ih (step c) (fun k hk => by have := hvalid (k + 1) (by omega); rwa [run] at this)]
    rw [step_counts c (hvalid 0 (by omega)) i]
    cases (opsOf c.w)[i]? with
    | none => rfl
    | some x => simp only [Option.map_some, evCount, Nat.add_assoc]

end SqProps.C01
