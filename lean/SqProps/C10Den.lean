/-
  C10 — [B] the scoping rules read off the compositional semantics (`Sq/Denote.lean`), which the machine implements exactly
  (`SqProps/C07Den.lean`).
-/
import Sq.Denote
import SqLemmas.DenoteScopes
namespace SqProps.C10Den
open Sq Sq.Den

/-- **bindings made during lambda calls vanish**: whatever a node evaluates — lambda calls nested and re-entrant, callbacks
    of map / filter / reduce / sorted, host callbacks that catch errors — when its evaluation ends, by returning OR by
    raising, every VM state has exactly the scope stack it had before: no parameter scope is left behind, none is lost -/
theorem evaluation_keeps_every_scope_stack (B : List Nat) (f : Nat) (op : Op) (vmi : Nat) (w : World) (o : Out) (w' : World)
    (h : evalOp B f op vmi w = some (o, w')) (i : Nat) : scopesAt w' i = scopesAt w i :=
  evalOp_keeps_scopes f op vmi w o w' h i

/-- … in particular around every function application -/
theorem application_keeps_every_scope_stack (B : List Nat) (f tf : Nat) (fn : Val) (args : List Val) (w : World) (o : Out)
    (w' : World) (h : applyVal B f tf fn args w = some (o, w')) (i : Nat) : scopesAt w' i = scopesAt w i :=
  applyVal_keeps_scopes f tf fn args w o w' h i

/-- **a name is read innermost-first**: the value of a name node is what `lookupName` finds walking the scope stack of the
    node's VM from the top — the lambda call in progress, …, the host's mapping — and the builtins last; an unbound name is a
    ParserError -/
theorem name_reads_innermost_first (B : List Nat) (f : Nat) (n : Name) (vmi : Nat) (w0 w : World) (vm : VM)
    (hc : charge w0 B vmi = some (w, none)) (hv : w.vm? vmi = some vm) :
    evalOp B (f + 1) (.name n) vmi w0 =
      match lookupName w.heap vm.scopes n with
      | some v => some (.ret v, w)
      | none => some (.raise (.parser "Undefined variable"), w) := by
  rw [evalOp]; simp only [hc, nameAct, hv]
  cases lookupName w.heap vm.scopes n <;> rfl

/-- **a lambda is called in a fresh scope on the VM it was created on**: the parameters are bound in a new dictionary pushed on
    top, the body is evaluated there, and `popScope` removes the scope whatever the outcome -/
theorem lambda_call_scoping (B : List Nat) (f tf : Nat) (ps : List Op) (body : Op) (vmi : Nat) (args : List Val) (w : World)
    (kvs : List (Val × Val)) (vm : VM) (hb : bindParams ps args [] = some kvs) (hv : w.vm? vmi = some vm) :
    applyVal B (f + 1) (tf + 1) (.closure ps body vmi) args w =
      match evalOp B f body vmi (({ w with heap := (w.heap.alloc (.dict kvs)).1 }).setVM vmi
              { vm with scopes := (w.heap.alloc (.dict kvs)).2 :: vm.scopes }) with
      | none => none
      | some (o, w1) => some (popScope vmi o w1) := by
  simp only [applyVal, hb, hv]
  split <;> (rename_i he; rw [he])

end SqProps.C10Den
