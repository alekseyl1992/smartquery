/-
  C08 — decimal arithmetic is exact: no binary floating-point error.
  A decimal is (-1)^neg · coeff · 10^exp with `coeff : Nat`, `exp : Int` — there is no float in the
  model of literals and arithmetic at all.  Exactness is stated over integers scaled to a common
  exponent (no rationals needed):  `scaled d e = ± coeff · 10^(exp - e)` for `e ≤ exp`.
  Literals are exact; `+` / `-` / `*` compute the exact result and then round ONCE with `fix`;
  `fix` is the identity when the exact result fits (≤ 28 digits, exponent in range) and otherwise
  rounds half-even to 28 digits (nearest, ties to even — `roundDiv_halfEven_nearest`);
  comparisons are comparisons of the exact scaled integers.  `fix` rounds to nearest / ties to even over its
  whole domain (`fix_rounds_to_nearest`), and `/` returns the half-even rounding of the TRUE quotient
  (`division_is_correctly_rounded`).
-/
import Sq.Machine
import SqLemmas.DivLemmas
namespace SqProps.C08
open Sq Sq.Dec

/-- the exact value of `d`, as an integer multiple of 10^e (for e ≤ d.exp) -/
def scaled (d : Dec) (e : Int) : Int :=
  (if d.neg then -1 else 1) * ((d.coeff * 10 ^ (d.exp - e).toNat : Nat) : Int)

/-- a literal denotes exactly its written value: the coefficient is the integer spelled by all
    its digits, the exponent is minus the number of fraction digits; nothing is rounded, however
    many digits are written -/
theorem literal_exact (ip fp : List Char) (d : Dec) (h : ofLiteral ip fp = some d) :
    digitsVal? (ip ++ fp) 0 = some d.coeff ∧ d.exp = -(fp.length : Int) ∧ d.neg = false := by
  unfold ofLiteral at h
  split at h
  · rename_i c hc
    simp only [Option.some.injEq] at h
    rw [← h]
    exact ⟨hc, rfl, rfl⟩
  · simp at h

/-- `+` and `*` are "exact result, then one rounding" -/
theorem add_is_exact_then_fix (a b : Dec) : Dec.add a b = fix (addExact a b) := rfl
theorem mul_is_exact_then_fix (a b : Dec) : Dec.mul a b = fix (mulExact a b) := rfl
theorem sub_is_add_neg (a b : Dec) : Dec.sub a b = fix (addExact a (negate b)) := rfl

/-- the exact sum: at the common exponent `min a.exp b.exp` the scaled values add up -/
theorem addExact_exact (a b : Dec) :
    scaled (addExact a b) (min a.exp b.exp) = scaled a (min a.exp b.exp) + scaled b (min a.exp b.exp)
    ∧ (addExact a b).exp = min a.exp b.exp := by
  obtain ⟨hs, he⟩ := addExact_int a b
  refine ⟨?_, he⟩
  -- the result stands at the common exponent: its power of ten is 1
  unfold scaled
  rw [he, Int.sub_self, Int.toNat_zero, Nat.pow_zero, Nat.mul_one]
  exact hs

/-- the exact product: coefficients multiply, exponents add, signs xor -/
theorem mulExact_exact (a b : Dec) :
    (mulExact a b).coeff = a.coeff * b.coeff ∧ (mulExact a b).exp = a.exp + b.exp ∧
    (mulExact a b).neg = (a.neg != b.neg) := ⟨rfl, rfl, rfl⟩

/-- on decimal operands the `+` node IS the decimal addition: there is no float conversion on
    that path -/
theorem binop_add_uses_dec (w : World) (x y : Dec) (cx cy : Bool) :
    applyBin w .add (.dec x cx) (.dec y cy) = (liftDec (Dec.add x y)).map (fun v => (v, w)) := by
  simp [applyBin, pyAdd, toInt?, toDec?, Except.map]
  cases liftDec (Dec.add x y) <;> rfl

/-- comparisons compare the exact values (scaled to the common exponent): no rounding, no float -/
theorem cmp_is_exact_order (a b : Dec) :
    cmp a b = compare (scaled a (min a.exp b.exp)) (scaled b (min a.exp b.exp)) := rfl

theorem eq_iff_scaled_eq (a b : Dec) :
    Dec.eq a b = true ↔ scaled a (min a.exp b.exp) = scaled b (min a.exp b.exp) := by
  simp [Dec.eq, cmp_is_exact_order]

/-- 0.1 + 0.2 == 0.3 (and the sum is exactly the decimal 0.3) -/
theorem point_one_plus_point_two :
    (Dec.add ⟨false, 1, -1⟩ ⟨false, 2, -1⟩).toOption = some ⟨false, 3, -1⟩ ∧
    Dec.eq ⟨false, 3, -1⟩ ⟨false, 3, -1⟩ = true := by
  decide +kernel

/-- -0 == 0; 1.0 == 1.00 -/
example : Dec.eq ⟨true, 0, 0⟩ ⟨false, 0, 0⟩ = true ∧ Dec.eq ⟨false, 10, -1⟩ ⟨false, 100, -2⟩ = true := by decide +kernel

/-- **`fix` is the identity whenever the exact result fits**: a non-zero coefficient of at most
    28 digits with its exponent inside the context's range is returned unchanged -/
theorem fix_id_when_fits (d : Dec) (hnz : d.coeff ≠ 0) (hd : ndigits d.coeff ≤ 28)
    (hlo : etiny ≤ d.exp) (hhi : (ndigits d.coeff : Int) + d.exp - 28 ≤ etop) :
    fix d = .ok d := by
  unfold fix
  rw [if_neg hnz]
  dsimp only
  rw [if_neg (by simp only [prec]; omega), if_neg (by simp only [prec]; omega)]

/-- `roundRat n d` is the integer nearest to the rational `n / d`, ties to even (the specification of half-even
    rounding, stated without rationals: `|n − roundRat·d| ≤ d / 2`) -/
theorem roundRat_is_nearest (n d : Nat) (hd : 0 < d) :
    (2 * n ≤ 2 * (roundRat n d * d) + d ∧ 2 * (roundRat n d * d) ≤ 2 * n + d) ∧
    ((2 * n = 2 * (roundRat n d * d) + d ∨ 2 * (roundRat n d * d) = 2 * n + d) → roundRat n d % 2 = 0) :=
  roundRat_nearest n d hd

/-- rounding half-even is to the NEAREST multiple of 10^k, ties to the EVEN quotient -/
theorem roundDiv_halfEven_nearest (neg : Bool) (c k : Nat) :
    (2 * c ≤ 2 * (roundDiv .halfEven neg c k * 10 ^ k) + 10 ^ k ∧
     2 * (roundDiv .halfEven neg c k * 10 ^ k) ≤ 2 * c + 10 ^ k) ∧
    ((2 * c = 2 * (roundDiv .halfEven neg c k * 10 ^ k) + 10 ^ k ∨
      2 * (roundDiv .halfEven neg c k * 10 ^ k) = 2 * c + 10 ^ k) → roundDiv .halfEven neg c k % 2 = 0) :=
  roundRat_nearest c (10 ^ k) (Nat.pow_pos (by decide))

/-- when `fix` rounds, the kept coefficient is that half-even quotient (or, if rounding up
    produced 10^28, the same value written with 28 digits) and has at most 28 digits -/
theorem fix_result_digits (d r : Dec) (h : fix d = .ok r) : r.digits ≤ 28 := fix_digits d r h

/-- the three cases of `fix`, by name: unchanged / half-even quotient at the 28-digit exponent / carry to 10^27 -/
theorem fix_case_analysis (d r : Dec) (h : fix d = .ok r) (hnz : d.coeff ≠ 0) :
    (fixExp d ≤ d.exp ∧ r = d) ∨
    (d.exp < fixExp d ∧ ndigits (fixQ d) ≤ 28 ∧ r = { d with coeff := fixQ d, exp := fixExp d }) ∨
    (d.exp < fixExp d ∧ fixQ d = 10 ^ 28 ∧ r = { d with coeff := 10 ^ 27, exp := fixExp d + 1 }) :=
  fix_cases d r h hnz

/-- **`fix` rounds to nearest, ties to even — for every decimal it accepts**: the result keeps the sign, stands `j ≥ 0`
    places higher, differs from the exact argument by at most half a unit of its own last place, and in the half-way
    case its coefficient is even; with at most 28 significant digits (`fix_result_digits`) -/
theorem fix_rounds_to_nearest (d r : Dec) (h : fix d = .ok r) (hnz : d.coeff ≠ 0) :
    r.neg = d.neg ∧ ∃ j : Nat, r.exp = d.exp + j ∧
      (2 * d.coeff ≤ 2 * (r.coeff * 10 ^ j) + 10 ^ j ∧ 2 * (r.coeff * 10 ^ j) ≤ 2 * d.coeff + 10 ^ j) ∧
      ((2 * d.coeff = 2 * (r.coeff * 10 ^ j) + 10 ^ j ∨ 2 * (r.coeff * 10 ^ j) = 2 * d.coeff + 10 ^ j) → r.coeff % 2 = 0) :=
  fix_nearest d r h hnz

/-- non-vacuity of the carry case of `fix`: 28 nines and a five round up to 10^27 · 10^2 -/
example : (fix ⟨false, 99999999999999999999999999995, 0⟩).toOption = some ⟨false, 10 ^ 27, 2⟩ := by decide +kernel

/-- **`+`, `-`, `*` are correctly rounded**: the result is the EXACT sum / difference / product (`addExact`,
    `mulExact`: integer arithmetic on coefficients, no rounding) rounded ONCE, to nearest, ties to even -/
theorem add_sub_mul_correctly_rounded (a b r : Dec) :
    (Dec.add a b = .ok r → (addExact a b).coeff ≠ 0 → ∃ j : Nat, r.exp = (addExact a b).exp + j ∧
      2 * (addExact a b).coeff ≤ 2 * (r.coeff * 10 ^ j) + 10 ^ j ∧ 2 * (r.coeff * 10 ^ j) ≤ 2 * (addExact a b).coeff + 10 ^ j) ∧
    (Dec.sub a b = .ok r → (addExact a (negate b)).coeff ≠ 0 → ∃ j : Nat, r.exp = (addExact a (negate b)).exp + j ∧
      2 * (addExact a (negate b)).coeff ≤ 2 * (r.coeff * 10 ^ j) + 10 ^ j ∧
      2 * (r.coeff * 10 ^ j) ≤ 2 * (addExact a (negate b)).coeff + 10 ^ j) ∧
    (Dec.mul a b = .ok r → a.coeff * b.coeff ≠ 0 → ∃ j : Nat, r.exp = a.exp + b.exp + j ∧
      2 * (a.coeff * b.coeff) ≤ 2 * (r.coeff * 10 ^ j) + 10 ^ j ∧ 2 * (r.coeff * 10 ^ j) ≤ 2 * (a.coeff * b.coeff) + 10 ^ j) := by
  -- one statement three times: `fix_nearest` at the exact result, without the sign and the tie clause
  have key (d : Dec) (h : fix d = .ok r) (hnz : d.coeff ≠ 0) :
      ∃ j : Nat, r.exp = d.exp + j ∧ Nearest d.coeff r.coeff (10 ^ j) :=
    have ⟨_, j, he, hb, _⟩ := fix_nearest d r h hnz
    ⟨j, he, hb⟩
  exact ⟨key _, key _, key (mulExact a b)⟩

/-- **the sticky digit suffices**: `num / den` with a last digit 0 or 5 bumped by one (what `__truediv__` computes for
    an inexact division), rounded half-even at any digit position k ≥ 1, IS the half-even rounding of the rational
    `num / den` at that position — for all naturals -/
theorem sticky_digit_suffices (neg : Bool) (num den k : Nat) (hd : 0 < den) (hk : 1 ≤ k) (hr : num % den ≠ 0) :
    roundDiv .halfEven neg (sticky num den) k = roundRat num (den * 10 ^ k) := sticky_round neg num den k hd hk hr

/-- **div_correct**: for every pair of non-zero decimals whose quotient is inexact, what `/` hands to the context
    rounding has at least 29 significant digits (so at least one digit is rounded away), and rounding it half-even at
    any position k ≥ 1 gives exactly the half-even rounding of the TRUE quotient `divNum / divDen` at that position -/
theorem div_correct (a b : Dec) (ha : a.coeff ≠ 0) (hb : b.coeff ≠ 0) (hr : divNum a b % divDen a b ≠ 0) :
    29 ≤ (divPre a b).digits ∧
    ∀ k, 1 ≤ k → roundDiv .halfEven (divPre a b).neg (divPre a b).coeff k = roundRat (divNum a b) (divDen a b * 10 ^ k) :=
  ⟨divPre_digits a b ha hb hr, fun k hk => divPre_rounds_as_quotient a b ha hb hr k hk⟩

/-- … and an exact quotient is kept exactly (rounding it is rounding the true quotient) -/
theorem div_exact (neg : Bool) (num den k : Nat) (hd : 0 < den) (hr : num % den = 0) :
    roundDiv .halfEven neg (num / den) k = roundRat num (den * 10 ^ k) := by
  have hn : num = num / den * den := by have := Nat.div_add_mod num den; rw [Nat.mul_comm]; omega
  rw [roundDiv_halfEven, ← roundRat_mul_right _ _ den hd, ← hn, Nat.mul_comm]

/-- non-vacuity: 1 / 3 is such an inexact division, 2 / 3 rounds up in the last place -/
example : divNum ⟨false, 1, 0⟩ ⟨false, 3, 0⟩ % divDen ⟨false, 1, 0⟩ ⟨false, 3, 0⟩ ≠ 0 := by decide +kernel
example : (Dec.div ⟨false, 2, 0⟩ ⟨false, 3, 0⟩).toOption = some ⟨false, 6666666666666666666666666667, -28⟩ := by decide +kernel

/-- **`/` is correctly rounded**: for non-zero operands and an inexact quotient, the coefficient `/` returns IS the
    half-even rounding of the true rational quotient `divNum / divDen` at the digit position `k ≥ 1` chosen by the
    context (28 significant digits), at exponent `divExp + k` — or, when that rounding is exactly 10^28, the same
    number written 10^27 · 10^(divExp + k + 1).  `a / b = (divNum / divDen) · 10^divExp` is `quotient_identity` (C08Rat.lean):
    `divNum`, `divDen`, `divExp` only move powers of ten between numerator, denominator and exponent. -/
theorem division_is_correctly_rounded (a b r : Dec) (ha : a.coeff ≠ 0) (hb : b.coeff ≠ 0)
    (hr : divNum a b % divDen a b ≠ 0) (h : Dec.div a b = .ok r) :
    r.neg = (a.neg != b.neg) ∧ ∃ k : Nat, 1 ≤ k ∧
      ((r.coeff = roundRat (divNum a b) (divDen a b * 10 ^ k) ∧ r.exp = divExp a b + (k : Int) ∧ r.digits ≤ 28) ∨
       (roundRat (divNum a b) (divDen a b * 10 ^ k) = 10 ^ 28 ∧ r.coeff = 10 ^ 27 ∧ r.exp = divExp a b + (k : Int) + 1)) :=
  div_correctly_rounded a b r ha hb hr h

end SqProps.C08
