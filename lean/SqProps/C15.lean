/-
  C15 — insignificant surface syntax never changes the parsed program.
  [A]: character-level lemmas about the lexer step (blank, tab, `;`, line break, CRLF, bracket
  depth, comment) and finite tests of tree equality (`Proto.sameTree`).  [B] token level, unbounded (SqLemmas/ParseLayout.lean on top
  of the completeness theorem of C06): blank statements, a trailing separator, the kind of closer that follows an
  expression, and a trailing comma after the last argument / element / entry never change the derived — hence
  the parsed — program; redundant parentheses and the three call styles are `C06.parens_read_as_inner` /
  `C06.method_and_pipe_same_tree`.  Character level, whole texts: a blank, a comment at the
  end of a line, a line break inside brackets, inserted between two tokens.
-/
import SqLemmas.ParseLayout
import SqLemmas.LexInsert
namespace SqProps.C15
open Sq

/-- a blank or tab between tokens produces no token and changes nothing but the position -/
theorem blank_is_skipped (st : LexSt) (cs : List Char) :
    lexStep st (' ' :: cs) = .skip { st with pos := st.pos + 1 } cs ∧
    lexStep st ('\t' :: cs) = .skip { st with pos := st.pos + 1 } cs :=
  ⟨lexStep_blank st ' ' (.inl rfl) cs, lexStep_blank st '\t' (.inr rfl) cs⟩

/-- `;` is a NEWLINE token at every bracket depth and does not advance the line counter -/
theorem semicolon_is_newline_token (st : LexSt) (cs : List Char) :
    lexStep st (';' :: cs) = mk .NEWLINE [';'] st 1 0 cs := lexStep_semi st cs

/-- a line break at bracket depth 0 is the same NEWLINE token type (so `;` and newline are
    interchangeable for the parser) -/
theorem newline_at_depth0_is_newline_token (st : LexSt) (cs : List Char) (h : st.depth = 0) :
    lexStep st ('\n' :: cs) = mkNL ['\n'] st 1 cs := by
  rw [lexStep_lf, if_pos h]

/-- CRLF is one NEWLINE token, like LF -/
theorem crlf_at_depth0_is_newline_token (st : LexSt) (cs : List Char) (h : st.depth = 0) :
    lexStep st ('\r' :: '\n' :: cs) = mkNL ['\r', '\n'] st 2 cs := by
  rw [lexStep_crlf, if_pos h]

/-- inside brackets a line break (LF or CRLF) produces no token; only the line counter moves -/
theorem newline_inside_brackets_ignored (st : LexSt) (cs : List Char) (h : st.depth ≠ 0) :
    lexStep st ('\n' :: cs) = .skip { st with pos := st.pos + 1, line := st.line + 1 } cs ∧
    lexStep st ('\r' :: '\n' :: cs) = .skip { st with pos := st.pos + 2, line := st.line + 1 } cs :=
  ⟨by rw [lexStep_lf, if_neg h]; rfl, by rw [lexStep_crlf, if_neg h]; rfl⟩

/-- a comment produces no token: everything up to (not including) the next line break is dropped -/
theorem comment_is_skipped (st : LexSt) (cs : List Char) :
    lexStep st ('#' :: cs) =
      .skip { st with pos := st.pos + 1 + (cs.length - (dropLine cs).length) } (dropLine cs) := by
  rw [lexStep_hash, LexSt.shift, Nat.add_assoc]

/-- opening / closing brackets move the depth by ±1 -/
theorem brackets_track_depth (st : LexSt) (cs : List Char) :
    lexStep st ('(' :: cs) = mk .LPAREN ['('] st 1 1 cs ∧ lexStep st (')' :: cs) = mk .RPAREN [')'] st 1 (-1) cs ∧
    lexStep st ('[' :: cs) = mk .LBRACKET ['['] st 1 1 cs ∧ lexStep st (']' :: cs) = mk .RBRACKET [']'] st 1 (-1) cs ∧
    lexStep st ('{' :: cs) = mk .LBRACE ['{'] st 1 1 cs ∧ lexStep st ('}' :: cs) = mk .RBRACE ['}'] st 1 (-1) cs := by
  refine ⟨?_, ?_, ?_, ?_, ?_, ?_⟩ <;> simp [lexStep, lexBracket]

/-- blank statements are dropped: an empty statement contributes no line to the program -/
theorem blank_statement_dropped (f : Nat) (t : Token) (rest : List Token) (h : t.ty = .NEWLINE) :
    pStatement f (t :: rest) = .ok (none, t :: rest) := by
  simp [pStatement, h]

/-- a blank statement in front of a derivable program: same parse result -/
theorem leading_blank_insignificant {ts : List Token} {out : List Op} {nl : Token} (hnl : nl.ty = .NEWLINE)
    (h : RCode [] ts out) : parseTokens (nl :: ts) = parseTokens ts := by
  rw [complete h, complete (rcode_leading_blank hnl h)]

/-- a separator (`;`, LF or CRLF — one NEWLINE token) after the last statement: same parse result -/
theorem trailing_separator_insignificant {ts : List Token} {out : List Op} {nl : Token} (hnl : nl.ty = .NEWLINE)
    (h : RCode [] ts out) : parseTokens (ts ++ [nl]) = parseTokens ts := by
  rw [complete h, complete (rcode_trailing_sep h hnl)]

/-- a doubled separator between two statements (a blank statement): same derived program -/
theorem blank_between_statements {acc : List Op} {ts : List Token} {s : Option Op} {nl nl2 : Token} {rest : List Token}
    {out : List Op} (hs : RStmt ts s (some .NEWLINE)) (hnl : nl.ty = .NEWLINE) (hnl2 : nl2.ty = .NEWLINE)
    (h : RCode (pushStmt acc s) rest out) :
    RCode acc (ts ++ nl :: rest) out ∧ RCode acc (ts ++ nl :: nl2 :: rest) out :=
  ⟨RCode.more hs hnl h, RCode.more hs hnl (rcode_leading_blank hnl2 h)⟩

/-- the tree an expression reads as does not depend on which closing token follows it
    (end of text, separator, `)`, `]`, `}`, `,`, `:`) -/
theorem closer_irrelevant {m : Nat} {a : Assoc} {ts : List Token} {t : Op} {b : Bool} {nxt nxt' : LA}
    (h : RExpr m a ts t b nxt) (hc : closer nxt) (hc' : closer nxt') : RExpr m a ts t b nxt' :=
  swExpr h nxt' (Or.inr ⟨hc, hc'⟩)

/-- trailing comma after the last of several arguments (`close` = `)`) or elements (`]`) -/
theorem trailing_comma_last_arg {close : Tk} {acc : List Op} {cm cm' c : Token} {ts0 : List Token} {e : Op} {b : Bool}
    (hclose : close = .RPAREN ∨ close = .RBRACKET)
    (hcm : cm.ty = .COMMA) (hcm' : cm'.ty = .COMMA) (hc : c.ty = close)
    (hfirst : peekTy (ts0 ++ [c]) ≠ some close)
    (he : RExpr 0 .right ts0 e b (some close)) :
    RArgsTail close acc (cm :: ts0 ++ [c]) (e :: acc).reverse ∧
    RArgsTail close acc (cm :: ts0 ++ [cm', c]) (e :: acc).reverse := by
  rcases hclose with h | h <;> subst h
  · exact last_arg_trailing_comma closer_rparen (by decide) hcm hcm' hc hfirst he
  · exact last_arg_trailing_comma closer_rbracket (by decide) hcm hcm' hc hfirst he

/-- trailing comma after a single argument / element -/
theorem trailing_comma_only_arg {close : Tk} {cm c : Token} {ts0 : List Token} {e : Op} {b : Bool}
    (hclose : close = .RPAREN ∨ close = .RBRACKET) (hcm : cm.ty = .COMMA) (hc : c.ty = close)
    (he : RExpr 0 .right ts0 e b (some close)) :
    RArgs close (ts0 ++ [c]) [e] ∧ RArgs close (ts0 ++ [cm, c]) [e] := by
  rcases hclose with h | h <;> subst h
  · exact only_arg_trailing_comma closer_rparen (by decide) hcm hc he
  · exact only_arg_trailing_comma closer_rbracket (by decide) hcm hc he

/-- trailing comma after the last dict entry -/
theorem trailing_comma_last_entry {acc : List Op} {tsk tsv : List Token} {k v : Op} {bk bv : Bool} {col cm rb : Token}
    (hk : RExpr 0 .right tsk k bk (some .COLON)) (hcol : col.ty = .COLON)
    (hv : RExpr 0 .right tsv v bv (some .RBRACE)) (hcm : cm.ty = .COMMA) (hrb : rb.ty = .RBRACE) :
    RDict acc (tsk ++ col :: tsv ++ [rb]) (v :: k :: acc).reverse ∧
    RDict acc (tsk ++ col :: tsv ++ [cm, rb]) (v :: k :: acc).reverse :=
  ⟨RDict.last hk hcol hv hrb,
   RDict.lastComma hk hcol (swExpr hv _ (Or.inr ⟨closer_rbrace, closer_comma⟩)) hcm hrb⟩

example : Proto.sameTree "(a)" "a" = true := by decide +kernel
example : Proto.sameTree "((a + b)) * (c)" "(a + b) * c" = true := by decide +kernel
example : Proto.sameTree "f((a), (b))" "f(a, b)" = true := by decide +kernel
example : Proto.sameTree "r.f(a)" "f(r, a)" = true := by decide +kernel
example : Proto.sameTree "r | f(a)" "f(r, a)" = true := by decide +kernel
example : Proto.sameTree "r | f" "f(r)" = true := by decide +kernel
example : Proto.sameTree "r.f()" "f(r)" = true := by decide +kernel
example : Proto.sameTree "f(a, b,)" "f(a, b)" = true := by decide +kernel
example : Proto.sameTree "x.f(a, b,)" "x.f(a, b)" = true := by decide +kernel
example : Proto.sameTree "x | f(a, b,)" "x | f(a, b)" = true := by decide +kernel
example : Proto.sameTree "[a, b,]" "[a, b]" = true := by decide +kernel
example : Proto.sameTree "{a: 1, b: 2,}" "{a: 1, b: 2}" = true := by decide +kernel
example : Proto.sameTree "a;b" "a\nb" = true := by decide +kernel
example : Proto.sameTree "a\r\nb" "a\nb" = true := by decide +kernel
example : Proto.sameTree "a;;\n;b\n" "a\nb" = true := by decide +kernel
example : Proto.sameTree "a # c\nb" "a\nb" = true := by decide +kernel
example : Proto.sameTree "f(a,\n  b\n)" "f(a, b)" = true := by decide +kernel
example : Proto.sameTree "[1,\r\n 2]" "[1, 2]" = true := by decide +kernel
example : Proto.sameTree "a  +\tb" "a + b" = true := by decide +kernel

/-- shifting offsets changes nothing the parser or an error message reads: kind, value and line of a token stay -/
theorem shift_keeps_kind_value_line (d : Nat) (t : Token) :
    (t.shift d).ty = t.ty ∧ (t.shift d).val = t.val ∧ (t.shift d).line = t.line := ⟨rfl, rfl, rfl⟩

/-- **an extra space or tab where the lexer begins a step is insignificant**: in every lexer state (any bracket depth,
    any line) and before any remaining text, the blank is skipped and the rest is lexed to the same tokens — kinds,
    values, line numbers — the same lexical error if any, every offset one further -/
theorem blank_where_a_step_begins (fuel : Nat) (st : LexSt) (b : Char) (hb : isBlank b) (s : List Char) :
    lexAllAux (fuel + 1) st (b :: s) [] = shiftOut 1 (lexAllAux fuel st s []) := by
  have := lexAllAux_move 1 0 fuel st s
  rw [lshiftOut_zero] at this
  rw [lexAllAux, lexStep_blank st b hb s]
  exact this

/-- leading blanks of a text -/
theorem leading_blank_of_text (b : Char) (hb : isBlank b) (s : List Char) :
    lexFrom LexSt.init (b :: s) = shiftOut 1 (lexFrom LexSt.init s) :=
  blank_where_a_step_begins (s.length + 1) LexSt.init b hb s

/-- the lexer reads its offset only to stamp tokens: one step commutes with shifting the offset -/
theorem lexer_is_offset_invariant (d : Nat) (st : LexSt) (s : List Char) :
    lexStep (st.shift d) s = (lexStep st s).shift d := by
  have := lexStep_move d 0 st s
  rwa [LexRes.lshift_zero] at this

example : (lexFrom LexSt.init " \t1 +  2".toList).toOption.map (fun p => p.1.map (fun t => (t.ty, t.val))) =
    (lexFrom LexSt.init "1 +  2".toList).toOption.map (fun p => p.1.map (fun t => (t.ty, t.val))) := by decide +kernel

/-- **the parser reads only token kinds and values**: offsets and line stamps never influence the tree -/
theorem parser_reads_kind_and_value (f : Token → Token) (hty : ∀ t, (f t).ty = t.ty) (hval : ∀ t, (f t).val = t.val)
    (ts : List Token) (out : List Op) (h : parseTokens ts = .ok (.code out)) : parseTokens (ts.map f) = .ok (.code out) :=
  parse_reads_kind_and_value f hty hval ts (.code out) h

/-- **an extra space or tab between tokens never changes the tokens**: if lexing `s` passes through the point where `post`
    remains (`LexReach`: a point between two steps of the lexer — not inside a string literal, a %…% name or a
    multi-character token), then `s = u ++ post` and lexing `u ++ b :: post` delivers the same tokens before the blank and
    the same tokens after it — kinds, values, line numbers; offsets one further — and the same lexical error if any -/
theorem extra_blank_between_tokens_same_tokens (b : Char) (hb : isBlank b) {post s : List Char} {st1 : LexSt}
    {acc1 : List Token} (h : LexReach post LexSt.init s [] st1 acc1) :
    ∃ u, s = u ++ post ∧
      lexFrom LexSt.init s = preOut acc1 (lexAll st1 post []) ∧
      lexFrom LexSt.init (u ++ b :: post) = preOut acc1 (shiftOut 1 (lexAll st1 post [])) :=
  lex_extra_blank b hb h

open Proto in
/-- **… and never changes the parsed program**: the text with the blank parses to a tree iff the text without it does,
    and then to the same tree -/
theorem extra_blank_between_tokens_same_program (b : Char) (hb : isBlank b) {post s : List Char} {st1 : LexSt}
    {acc1 : List Token} (h : LexReach post LexSt.init s [] st1 acc1) (tree : Op) :
    ∃ u, s = u ++ post ∧ (parseText LexSt.init (u ++ b :: post) = .ok tree ↔ parseText LexSt.init s = .ok tree) := by
  obtain ⟨u, rfl, _⟩ := reach_advance h
  exact ⟨u, rfl, insert_same_program h (passes_blank hb st1 post) tree⟩

open Proto in
/-- a leading blank is the special case `u = []` -/
theorem leading_blank_same_program (b : Char) (hb : isBlank b) (s : List Char) (t : Op) :
    parseText LexSt.init (b :: s) = .ok t ↔ parseText LexSt.init s = .ok t :=
  insert_same_program (u := []) (LexReach.here LexSt.init []) (passes_blank hb _ s) t

/-- non-vacuity: lexing `1+2` passes through the point where `+2` remains (after the NUMBER token) -/
example : ∃ st1 acc1, LexReach "+2".toList LexSt.init "1+2".toList [] st1 acc1 :=
  ⟨_, _, LexReach.tok (t := ⟨.NUMBER, ['1'], 0, 1⟩) (st' := ⟨1, 1, 0⟩) (by rfl) (LexReach.here _ _)⟩

/-- … and a blank between `=` and `>` of `a=>b` changes the tokens (it is not between tokens: `=>` is one LAMBDA token) -/
example : (lexFrom LexSt.init "a=>b".toList).toOption.map (fun p => p.1.map (·.ty)) = some [.NAME, .LAMBDA, .NAME] ∧
    (lexFrom LexSt.init "a= >b".toList).toOption.map (fun p => p.1.map (·.ty)) = some [.NAME, .ASSIGN, .GT, .NAME] := by
  decide +kernel

/-- **a comment never changes the tokens**: if lexing `s` passes through the point where `post` remains (a point between two
    lexer steps) and `post` is the end of the text or starts with a line feed, then inserting `#` and any comment text `cs`
    without a line feed there gives the same tokens before and after it — kinds, values, line numbers; later offsets moved by
    the length of the comment — and the same lexical error if any -/
theorem comment_at_line_end_same_tokens (cs : List Char) (hcs : nl cs = 0) {post s : List Char}
    (hp : post = [] ∨ ∃ t, post = '\n' :: t) {st1 : LexSt} {acc1 : List Token}
    (h : LexReach post LexSt.init s [] st1 acc1) :
    ∃ u, s = u ++ post ∧
      lexFrom LexSt.init s = preOut acc1 (lexAll st1 post []) ∧
      lexFrom LexSt.init (u ++ '#' :: (cs ++ post)) = preOut acc1 (shiftOut (1 + cs.length) (lexAll st1 post [])) := by
  simpa only [lshiftOut_zero] using lex_insert h (passes_comment hcs hp st1)

open Proto in
/-- **… and never changes the parsed program** -/
theorem comment_at_line_end_same_program (cs : List Char) (hcs : nl cs = 0) {post s : List Char}
    (hp : post = [] ∨ ∃ t, post = '\n' :: t) {st1 : LexSt} {acc1 : List Token}
    (h : LexReach post LexSt.init s [] st1 acc1) (tree : Op) :
    ∃ u, s = u ++ post ∧
      (parseText LexSt.init (u ++ '#' :: (cs ++ post)) = .ok tree ↔ parseText LexSt.init s = .ok tree) := by
  obtain ⟨u, rfl, _⟩ := reach_advance h
  exact ⟨u, rfl, insert_same_program h (passes_comment hcs hp st1) tree⟩

/-- non-vacuity: lexing `a\nb` passes through the point where `\nb` remains (after the NAME `a`) — a comment may be put there -/
example : ∃ st1 acc1, LexReach "\nb".toList LexSt.init "a\nb".toList [] st1 acc1 :=
  ⟨_, _, LexReach.tok (t := ⟨.NAME, ['a'], 0, 1⟩) (st' := ⟨1, 1, 0⟩) (by rfl) (LexReach.here _ _)⟩

/-- … and concretely: `a # note` + line feed + `b` lexes to the kinds of `a` + line feed + `b` -/
example : (lexFrom LexSt.init "a # note\nb".toList).toOption.map (fun p => p.1.map (·.ty)) =
    (lexFrom LexSt.init "a \nb".toList).toOption.map (fun p => p.1.map (·.ty)) := by decide +kernel

open Proto in
/-- **a line break between tokens inside brackets never changes the parsed program** — `\n` as well as `\r\n`: if lexing `s`
    passes through the point where `post` remains while the lexer is inside brackets (`st1.depth ≠ 0`), the text with a line
    break inserted there parses to a tree iff `s` does, and to the same tree (the later tokens keep kind and value; their
    offsets and LINE numbers move — `lex_extra_linefeed`, `lex_extra_crlf` — and the parser reads neither) -/
theorem line_break_in_brackets_same_program {post s : List Char} {st1 : LexSt} {acc1 : List Token}
    (h : LexReach post LexSt.init s [] st1 acc1) (hd : st1.depth ≠ 0) (tree : Op) :
    ∃ u, s = u ++ post ∧
      (parseText LexSt.init (u ++ '\n' :: post) = .ok tree ↔ parseText LexSt.init s = .ok tree) ∧
      (parseText LexSt.init (u ++ '\r' :: '\n' :: post) = .ok tree ↔ parseText LexSt.init s = .ok tree) := by
  obtain ⟨u, rfl, _⟩ := reach_advance h
  exact ⟨u, rfl, insert_same_program h (passes_lf hd post) tree, insert_same_program h (passes_crlf hd post) tree⟩

/-- non-vacuity: lexing `f(a,b)` passes through the point where `b)` remains, inside the bracket (depth 1) -/
example : ∃ st1 acc1, LexReach "b)".toList LexSt.init "f(a,b)".toList [] st1 acc1 ∧ st1.depth ≠ 0 :=
  ⟨⟨4, 1, 1⟩, _, LexReach.tok (t := ⟨.NAME, ['f'], 0, 1⟩) (st' := ⟨1, 1, 0⟩) (by rfl)
    (LexReach.tok (t := ⟨.LPAREN, ['('], 1, 1⟩) (st' := ⟨2, 1, 1⟩) (by rfl)
      (LexReach.tok (t := ⟨.NAME, ['a'], 2, 1⟩) (st' := ⟨3, 1, 1⟩) (by rfl)
        (LexReach.tok (t := ⟨.COMMA, [','], 3, 1⟩) (st' := ⟨4, 1, 1⟩) (by rfl) (LexReach.here _ _)))), by decide⟩

/-- … while at depth 0 a line break is a statement separator: `a\nb` and `ab` differ -/
example : (lexFrom LexSt.init "a\nb".toList).toOption.map (fun p => p.1.map (·.ty)) = some [.NAME, .NEWLINE, .NAME] := by
  decide +kernel

end SqProps.C15
