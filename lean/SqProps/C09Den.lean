/-
  C09 — [B] the evaluation order read off the compositional semantics (`Sq/Denote.lean`), which the machine implements
  exactly (`SqProps/C07Den.lean`: `semantics_iff_machine`): the statements below are about `evalOp` / `iterate` and hold of
  every run of the machine through that equivalence.
-/
import Sq.Denote
import SqLemmas.DenoteAgree
namespace SqProps.C09Den
open Sq Sq.Den

/-- `a and b`: when `a` is falsy the result is `a`'s own outcome and world — `b` contributes nothing (it is not evaluated) -/
theorem and_is_lazy (B : List Nat) (f : Nat) (a b : Op) (vmi : Nat) (w0 w w1 : World) (va : Val)
    (hc : charge w0 B vmi = some (w, none)) (ha : evalOp B f a vmi w = some (.ret va, w1)) (hf : truthy w1.heap va = false) :
    evalOp B (f + 1) (.bin .and a b) vmi w0 = some (.ret va, w1) := by
  rw [evalOp]; simp only [hc]
  rw [andThen_ret ha]
  simp [hf]

/-- `a or b`: when `a` is truthy the result is `a`'s own outcome and world -/
theorem or_is_lazy (B : List Nat) (f : Nat) (a b : Op) (vmi : Nat) (w0 w w1 : World) (va : Val)
    (hc : charge w0 B vmi = some (w, none)) (ha : evalOp B f a vmi w = some (.ret va, w1)) (ht : truthy w1.heap va = true) :
    evalOp B (f + 1) (.bin .or a b) vmi w0 = some (.ret va, w1) := by
  rw [evalOp]; simp only [hc]
  rw [andThen_ret ha]
  simp [ht]

/-- `x if c else y`: exactly one branch contributes -/
theorem ifelse_one_branch (B : List Nat) (f : Nat) (c x y : Op) (vmi : Nat) (w0 w w1 : World) (vc : Val)
    (hc : charge w0 B vmi = some (w, none)) (hcond : evalOp B f c vmi w = some (.ret vc, w1)) :
    evalOp B (f + 1) (.ifx c x y) vmi w0 = if truthy w1.heap vc then evalOp B f x vmi w1 else evalOp B f y vmi w1 := by
  rw [evalOp]; simp only [hc]
  rw [andThen_ret hcond]

/-- an error raised by the left operand of ANY binary operator is the outcome: the right operand contributes nothing -/
theorem left_error_skips_right (B : List Nat) (f : Nat) (bk : BinK) (a b : Op) (vmi : Nat) (w0 w w1 : World) (e : PyErr)
    (hc : charge w0 B vmi = some (w, none)) (ha : evalOp B f a vmi w = some (.raise e, w1)) :
    evalOp B (f + 1) (.bin bk a b) vmi w0 = some (.raise e, w1) := by
  rw [evalOp]; simp only [hc]
  rw [andThen_raise ha]

/-- **a callback that raises stops the iteration**: map / filter / reduce / sorted hand the error on, in the world the callback
    left; no later element is fetched, no later application is evaluated -/
theorem callback_error_stops_iteration (B : List Nat) (f tf : Nat) (kind : IterKind) (g : Val) (src src' : IterSrc)
    (item acc : List Val) (w w1 : World) (e : PyErr) (hn : nextItem w.heap src = some (item, src'))
    (hcb : applyVal B f tf g (cbArgs kind acc item) w = some (.raise e, w1)) :
    iterate B (f + 1) (tf + 1) kind g src acc w = some (.raise e, w1) := by
  simp only [iterate, hn]
  rw [andThen_raise hcb]

/-- … and one that returns is followed by the next element, fetched in the world the callback left -/
theorem callback_value_then_next (B : List Nat) (f tf : Nat) (kind : IterKind) (g : Val) (src src' : IterSrc)
    (item acc : List Val) (w w1 : World) (v : Val) (hn : nextItem w.heap src = some (item, src'))
    (hcb : applyVal B f tf g (cbArgs kind acc item) w = some (.ret v, w1)) :
    iterate B (f + 1) (tf + 1) kind g src acc w =
      iterate B f callFuel kind g src' (accAfter kind w1.heap v (item.headD .none) acc) w1 := by
  simp only [iterate, hn]
  rw [andThen_ret hcb]

end SqProps.C09Den
