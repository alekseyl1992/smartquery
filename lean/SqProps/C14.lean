/-
  C14 — lists and dicts behave like their models under any operation sequence.
  Spec: a list is a `List Val` addressed by Python index normalisation (`normIndex`), a dict is an
  insertion-ordered association list keyed by the `str()` of the key.  First the single operations: one key-cast shared by
  literal / read / write / get / del / compound write; write-then-read on str-keyed dicts; decimal
  indices truncate; negative indices count from the end; failing reads and pop-from-empty are
  ParserErrors and (being errors) change nothing.  Then the refinement under any sequence of operations (`ops_refine_dict`,
  `ops_refine_list'`, `observers_see_the_spec`): the heap object holds what the mathematical dict / list holds.  Then
  slices: `xs[a:b]` is the contiguous segment, `[::-1]` reverses, `[::k]` / `[::-k]` take every k-th position, step 0 is
  refused, every selected position lies inside the list, and a slice read returns a new list object.
-/
import Sq.Machine
import SqLemmas.DictRefine
import SqLemmas.ListRefine
import SqLemmas.SliceLemmas
import SqLemmas.BuiltinTable
namespace SqProps.C14
open Sq

theorem read_uses_keyCast (s : BState) (c k : Val) :
    bGetItem s c k = match keyCast s.heap c k with
      | .error e => .error e
      | .ok k' => match pyGetItem s c k' with
        | .error .keyError => .error (.parser "Key error")
        | .error .indexError => .error (.parser "Key error")
        | r => r := rfl

theorem literal_uses_dictKeyCast (h : Heap) (k v : Val) (rest : List Val) (acc : List (Val × Val)) :
    buildDict h (k :: v :: rest) acc = match dictKeyCast h k with
      | .error e => .error e
      | .ok (.str ks) => buildDict h rest (kvSet acc ks v)
      | .ok _ => U "dict-key" := rfl

/-- for a dict container every operation casts the key with `str` -/
theorem keyCast_dict (h : Heap) (c k : Val) (hd : isDict h c = true) : keyCast h c k = dictKeyCast h k :=
  Sq.keyCast_dict h c k hd

/-- for a list (or any non-dict) container: decimals are truncated to ints, other keys unchanged -/
theorem keyCast_list (h : Heap) (c k : Val) (hd : isDict h c = false) : keyCast h c k = .ok (listKeyCast k) :=
  Sq.keyCast_list h c k hd

theorem decimal_index_truncates (d : Dec) (c : Bool) : listKeyCast (.dec d c) = .int d.toInt := rfl

theorem negative_index_from_end (n : Nat) (i : Int) (hi : i < 0) (hr : -(n : Int) ≤ i) :
    normIndex n i = some (i + n).toNat := by
  have h1 : 0 ≤ i + (n : Int) := by omega
  have h2 : i + (n : Int) < n := by omega
  simp [normIndex, hi, h1, h2]

theorem nonneg_index (n : Nat) (i : Int) (h0 : 0 ≤ i) (hn : i < n) : normIndex n i = some i.toNat := by
  have : ¬ i < 0 := by omega
  simp [normIndex, this, h0, hn]

theorem out_of_range_index (n : Nat) (i : Int) (h : i ≥ n ∨ i < -(n : Int)) : normIndex n i = none := by
  unfold normIndex
  rcases h with h | h
  · have : ¬ i < 0 := by omega
    simp [this]; omega
  · have : i < 0 := by omega
    simp [this]; omega

/-- writing under a string key and then looking that key up yields the written value -/
theorem kvSet_then_find (kvs : List (Val × Val)) (n : Name) (v : Val) :
    ((kvSet kvs n v).find? (fun kv => keyIsName kv.1 n)).map (·.2) = some v :=
  absMap_kvSet_self kvs n v

/-- … and leaves every other string key as it was -/
theorem kvSet_other_key (kvs : List (Val × Val)) (n m : Name) (v : Val) (hne : (m == n) = false)
    (hstr : ∀ p ∈ kvs, ∃ s, p.1 = .str s) :
    ((kvSet kvs n v).find? (fun kv => keyIsName kv.1 m)).map (·.2) =
    (kvs.find? (fun kv => keyIsName kv.1 m)).map (·.2) :=
  absMap_kvSet_ne kvs n v m (by simpa using hne)

/-- deleting a string key makes a later read of that key miss (a dict holds a key at most once) -/
theorem kvErase_then_find_fresh (n : Name) (v : Val) (kvs : List (Val × Val))
    (hno : ∀ p ∈ kvs, keyIsName p.1 n = false) :
    ∀ p ∈ kvErase (kvSet kvs n v) n, keyIsName p.1 n = false := by
  rw [kvErase_kvSet_fresh n v kvs hno]
  exact hno

/-- `d[k] = v` then `d[k]`: the dict-level write/read pair on the heap object -/
theorem dict_write_then_read (s s' : BState) (a : Nat) (ks : List Char) (v : Val)
    (hw : pySetItem s (.ref a) (.str ks) v = .ok s') (hd : isDict s.heap (.ref a) = true) :
    pyGetItem s' (.ref a) (.str ks) = .ok (v, s') := by
  obtain ⟨_, e, hs⟩ := pySetItem_inv hw
  cases e
  rcases hs with ⟨xs, -, -, hg, -⟩ | ⟨kvs, kvs', hg, hds, rfl⟩
  · cases (isDict_list hg).symm.trans hd
  · obtain rfl : kvSet kvs ks v = kvs' := Except.ok.inj hds
    have hf : dictFind (s.heap.set a (.dict (kvSet kvs ks v))) (kvSet kvs ks v) (.str ks) = .ok (some v) :=
      congrArg Except.ok (absMap_kvSet_self kvs ks v)
    simp only [pyGetItem, get?_set_self (get_lt hg), isHashable, hf]
    rfl

/-- `d[k] = v` is followed by `d[k'] == v` whenever `str k = str k'`: both go through the same
    cast, so they address the same string key -/
theorem same_str_same_key (h : Heap) (k k' : Val) (hs : pyStr h k = pyStr h k') :
    dictKeyCast h k = dictKeyCast h k' := by
  simp [dictKeyCast, hs]

theorem read_missing_key_is_parser_error (s : BState) (a : Nat) (kvs : List (Val × Val)) (k : Val) (ks : List Char)
    (hg : s.heap.get? a = some (.dict kvs)) (hk : pyStr s.heap k = .ok ks)
    (hm : kvs.find? (fun kv => keyIsName kv.1 ks) = none) :
    bGetItem s (.ref a) k = .error (.parser "Key error") := by
  simp [bGetItem, keyCast_dict, isDict_dict hg, dictKeyCast, hk, Except.map, pyGetItem, hg, isHashable, dictFind, hm]

theorem read_out_of_range_is_parser_error (s : BState) (a : Nat) (xs : List Val) (i : Int)
    (hg : s.heap.get? a = some (.list xs)) (ho : normIndex xs.length i = none) :
    bGetItem s (.ref a) (.int i) = .error (.parser "Key error") := by
  simp [bGetItem, keyCast_list, isDict_list hg, listKeyCast, pyGetItem, hg, toInt?, ho]

theorem pop_empty_is_parser_error (s : BState) (a : Nat) (hg : s.heap.get? a = some (.list [])) :
    b_pop [.ref a] s = .error (.parser "pop from empty list") :=
  b_pop_list hg

/-- `pop()` on a non-empty list returns the last element and removes exactly it -/
theorem pop_last (s : BState) (a : Nat) (xs : List Val) (x : Val)
    (hg : s.heap.get? a = some (.list (xs ++ [x]))) :
    b_pop [.ref a] s = .ok (x, { s with heap := s.heap.set a (.list xs) }) := by
  simp [b_pop_list hg, ret]

/-- `push` then `len` / last read: the pushed value is the last element -/
theorem push_appends (s : BState) (a : Nat) (xs : List Val) (v : Val)
    (hg : s.heap.get? a = some (.list xs)) (hl : xs.length < maxArraySize) :
    b_push [.ref a, v] s = .ok (.none, { s with heap := s.heap.set a (.list (xs ++ [v])) }) := by
  rw [b_push_list hg, if_neg (by omega)]
  rfl

/-- on string keys (every key the language produces, after `_dict_key_cast`) the heap-level write and delete
    ARE the association-list operations the refinement theorem is about -/
theorem dictSet_is_implStep (h : Heap) (kvs : List (Val × Val)) (ks : Name) (v : Val) :
    dictSet h kvs (.str ks) v = .ok (implStep kvs (.set ks v)) := rfl

theorem dictErase_is_implStep (h : Heap) (kvs : List (Val × Val)) (ks : Name) :
    dictErase h kvs (.str ks) = .ok (implStep kvs (.del ks)) := rfl

/-- **ops_refine (dict)**: under ANY sequence of writes and deletes, starting from any well-formed dict (string
    keys, none twice — e.g. the empty dict or a dict literal), the dict holds exactly what the mathematical dict
    holds: the same map from keys to values, the same key order; and stays well-formed -/
theorem ops_refine_dict (ops : List DOp) (kvs : List (Val × Val)) (hw : WFD kvs) :
    absMap (ops.foldl implStep kvs) = ops.foldl specMap (absMap kvs) ∧
    absOrder (ops.foldl implStep kvs) = ops.foldl specOrder (absOrder kvs) ∧
    WFD (ops.foldl implStep kvs) := Sq.ops_refine_dict ops kvs hw

/-- … what `keys`, `len`, and every read / `values` / `items` entry observe is that mathematical dict -/
theorem observers_see_the_spec (kvs : List (Val × Val)) (hw : WFD kvs) :
    kvs.map (·.1) = (absOrder kvs).map Val.str ∧ kvs.length = (absOrder kvs).length ∧
    (∀ s v, (Val.str s, v) ∈ kvs → absMap kvs s = some v) ∧
    (∀ s, dictFind #[] kvs (.str s) = .ok (absMap kvs s)) :=
  ⟨keys_are_order kvs hw.1, len_is_order_length kvs hw.1, entry_is_mapped kvs hw, fun _ => rfl⟩

/-- non-vacuity: the empty dict is well-formed -/
example : WFD [] := wfd_nil
/-- two writes, a delete of the first key, a rebinding of the second: a read sees the last write -/
example : absMap ([DOp.set ['a'] (.int 1), .set ['b'] (.int 2), .del ['a'], .set ['b'] (.int 3)].foldl implStep []) ['b']
    = some (.int 3) := by rfl

/-- **one list operation**: `push`, `pop` (last / at a position), `insert`, the store of `c[i] = v`, `del c[i]` do to the
    object at address `a` exactly what Python's list does to the mathematical list (`specL`: append; removal at a
    position, negative positions counted from the end; clamped insertion; replacement) — the new heap is the old one
    with that object replaced — and fail, changing nothing, exactly when the specification refuses (empty pop, position
    out of range, 10000 elements reached) -/
theorem list_op_refines (s : BState) (a : Nat) (xs : List Val) (hg : s.heap.get? a = some (.list xs)) (op : LOp) :
    match specL xs op with
    | some ys => implL s a op = .ok { s with heap := s.heap.set a (.list ys) }
    | none => ∃ e, implL s a op = .error e ∧ Refusal e := implL_refines s a xs hg op

/-- **ops_refine for lists**: under any sequence of such operations the list object holds exactly the mathematical
    list, and no other object, nor the random state, nor the pending engine answers change -/
theorem ops_refine_list' (ops : List LOp) (s : BState) (a : Nat) (xs : List Val) (hg : s.heap.get? a = some (.list xs)) :
    (runImplL s a ops).heap.get? a = some (.list (runSpecL xs ops)) ∧
    (∀ b, b ≠ a → (runImplL s a ops).heap.get? b = s.heap.get? b) ∧
    (runImplL s a ops).rng = s.rng ∧ (runImplL s a ops).rx = s.rx := ops_refine_list ops s a xs hg

/-- the index normalisation of the builtins IS "negative positions count from the end" -/
theorem index_normalisation (n : Nat) (i : Int) : normIndex n i = pos? n i := normIndex_eq_pos n i

/-- a refusal is a language-level failure (ParserError / IndexError → ParserError at the call boundary), never an
    unmodelled case -/
example : Refusal (.parser "pop from empty list") ∧ Refusal .indexError ∧ ¬ Refusal (.unmodelled "x") :=
  ⟨trivial, trivial, fun h => h⟩

/-- non-vacuity: push 1, push 2, pop at -2, insert at 5 (clamped), write [0] = 9, refused pop at 7 -/
example : runSpecL [] [.push (.int 1), .push (.int 2), .popAt (-2), .insert 5 (.int 3), .set 0 (.int 9), .popAt 7] =
    [.int 9, .int 3] := by rfl
example : (runImplL { heap := #[.list []], rng := 0, rx := [] } 0
    [.push (.int 1), .push (.int 2), .popAt (-2), .insert 5 (.int 3), .set 0 (.int 9), .popAt 7]).heap.get? 0 =
    some (.list [.int 9, .int 3]) := by rfl

/-- **`xs[a:b]` is the contiguous segment between its bounds** (`pyGetItem` on a list with a slice key returns
    `pick xs (sliceIndices …)`, Sq/Builtins.lean; `sliceIndices` transcribes `slice.indices`): a bound counts from the end when
    negative and is clamped to `0 .. len`; the elements between the bounds come out in order, none when the bounds cross -/
theorem slice_is_contiguous_segment (xs : List Val) (a b : Option Int) :
    ∃ idx, sliceIndices xs.length a b none = .ok idx ∧
      pick xs idx = (xs.drop (sliceBound xs.length a 0)).take (sliceBound xs.length b xs.length - sliceBound xs.length a 0) :=
  slice_is_segment xs a b

/-- a slice is never longer than its source, and `xs[:]` is all of `xs` -/
theorem slice_no_longer_than_source (xs : List Val) (a b : Option Int) :
    ∃ idx, sliceIndices xs.length a b none = .ok idx ∧ (pick xs idx).length ≤ xs.length ∧ (a = none → b = none → pick xs idx = xs) := by
  obtain ⟨idx, h1, h2⟩ := slice_is_segment xs a b
  refine ⟨idx, h1, pick_slice_length_le xs a b none idx h1, ?_⟩
  rintro rfl rfl
  rw [h2]; simp [sliceBound]

/-- **`xs[::-1]` is `xs` reversed** (the one slice form with a step the grammar spells: `[::k]`, here `k = -1`) -/
theorem slice_with_step_minus_one_reverses (xs : List Val) :
    ∃ idx, sliceIndices xs.length none none (some (-1)) = .ok idx ∧ pick xs idx = xs.reverse :=
  slice_reverse xs

/-- **`xs[::k]` with `k > 0` takes every `k`-th element, starting with the first**: the result has as many elements as
    there are multiples of `k` below the length (`⌈n / k⌉`), its `j`-th element is `xs[j * k]`, and every selected position
    lies inside the list (nothing is skipped silently by `pick`) -/
theorem slice_with_positive_step_takes_every_kth (xs : List Val) (k : Nat) (hk : 0 < k) :
    ∃ idx, sliceIndices xs.length none none (some (k : Int)) = .ok idx ∧
      (∀ i, i ∈ idx → i < xs.length) ∧
      (pick xs idx).length = (xs.length + k - 1) / k ∧
      ∀ j, j < (xs.length + k - 1) / k → (pick xs idx)[j]? = xs[j * k]? := by
  obtain ⟨h1, h2⟩ := slice_step_indices xs.length k hk
  obtain ⟨h3, h4⟩ := slice_step_elems xs k hk
  exact ⟨_, h1, h2, h3, h4⟩

/-- **`xs[::-k]` with `k > 0` takes every `k`-th element counted from the LAST one backwards**: `⌈n / k⌉` elements, the `j`-th
    being `xs[n - 1 - j * k]`, and `j * k < n` for each of them (so every selected position lies inside the list).
    `k = 1` is the reversal of `slice_with_step_minus_one_reverses`. With the positive case and the refused zero step this
    settles `[::k]` for every integer `k` -/
theorem slice_with_negative_step_takes_every_kth_from_the_end (xs : List Val) (k : Nat) (hk : 0 < k) :
    ∃ idx, sliceIndices xs.length none none (some (-(k : Int))) = .ok idx ∧
      (∀ j, j < (xs.length + k - 1) / k → j * k < xs.length) ∧
      (pick xs idx).length = (xs.length + k - 1) / k ∧
      ∀ j, j < (xs.length + k - 1) / k → (pick xs idx)[j]? = xs[xs.length - 1 - j * k]? := by
  obtain ⟨h1, h2⟩ := slice_neg_step_indices xs.length k hk
  obtain ⟨h3, h4⟩ := slice_neg_step_elems xs k hk
  exact ⟨_, h1, h2, h3, h4⟩

/-- **a zero step is refused** whatever the bounds (`ValueError: slice step cannot be zero`), it never selects anything -/
theorem slice_with_zero_step_is_refused (n : Nat) (a b : Option Int) :
    sliceIndices n a b (some 0) = .error .valueError := by
  rw [sliceIndices_eq]; rfl

/-- `[10, 20, 30, 40, 50][::2]` = `[10, 30, 50]` (⌈5 / 2⌉ = 3 elements) -/
example : pick [10, 20, 30, 40, 50] ((sliceIndices 5 none none (some 2)).toOption.getD []) = [10, 30, 50] := by decide +kernel

/-- **every slice, whatever its bounds and step, selects positions inside the list and returns exactly one element per selected
    position**: the model's `pick` (which would skip a position outside the list) never skips, so nothing is lost or invented
    between `slice.indices` and the list the read returns -/
theorem slice_positions_inside_none_dropped (xs : List Val) (a b c : Option Int) (idx : List Nat)
    (h : sliceIndices xs.length a b c = .ok idx) :
    (∀ i, i ∈ idx → i < xs.length) ∧ (pick xs idx).length = idx.length ∧ idx.length ≤ xs.length :=
  ⟨sliceIndices_mem_lt _ _ _ _ _ h, pick_slice_length_eq xs a b c idx h, sliceIndices_length_le _ _ _ _ _ h⟩

/-- **the `j`-th element any slice returns is the element at the `j`-th position `slice.indices` selected** — with
    `slice_positions_inside_none_dropped` this determines the result of every slice read from the position list alone -/
theorem slice_elements_are_the_selected_positions (xs : List Val) (a b c : Option Int) (idx : List Nat)
    (h : sliceIndices xs.length a b c = .ok idx) (j : Nat) (hj : j < idx.length) :
    (pick xs idx)[j]? = xs[idx[j]]? :=
  slice_getElem xs a b c idx h j hj

/-- non-vacuity: `[::-2]`, `[-100:100]`, `[5:1]` on three elements all succeed -/
example : ((sliceIndices 3 none none (some (-2))).toOption.isSome ∧ (sliceIndices 3 (some (-100)) (some 100) none).toOption.isSome ∧
    (sliceIndices 3 (some 5) (some 1) none).toOption.isSome) := by decide +kernel

/-- **reading `c[a:b]` from a list object** returns a NEW list object holding exactly that segment, and leaves every object
    that existed before as it was (`HeapExt`): the slice is a copy of the spine, never a view -/
theorem slice_read_returns_new_segment (s : BState) (a : Nat) (xs : List Val) (lo hi : Option Int)
    (hg : s.heap.get? a = some (.list xs)) :
    pyGetItem s (.ref a) (.slice lo hi none) =
      .ok (allocList s ((xs.drop (sliceBound xs.length lo 0)).take (sliceBound xs.length hi xs.length - sliceBound xs.length lo 0))) ∧
    SqProps.C13.HeapExt s.heap (allocList s ((xs.drop (sliceBound xs.length lo 0)).take
      (sliceBound xs.length hi xs.length - sliceBound xs.length lo 0))).2.heap := by
  obtain ⟨idx, h1, h2⟩ := slice_is_segment xs lo hi
  refine ⟨?_, SqProps.C13.allocList_ext s _⟩
  rw [pyGetItem_list_slice hg, h1, ← h2]

/-- **reading `c[::k]` (`k > 0`) from a list object** returns a NEW list object holding every `k`-th element, and leaves every
    object that existed before as it was -/
theorem step_slice_read_returns_new_list (s : BState) (a : Nat) (xs : List Val) (k : Nat) (hk : 0 < k)
    (hg : s.heap.get? a = some (.list xs)) :
    ∃ ys, pyGetItem s (.ref a) (.slice none none (some (k : Int))) = .ok (allocList s ys) ∧
      ys.length = (xs.length + k - 1) / k ∧ (∀ j, j < (xs.length + k - 1) / k → ys[j]? = xs[j * k]?) ∧
      SqProps.C13.HeapExt s.heap (allocList s ys).2.heap := by
  obtain ⟨idx, h1, _, h3, h4⟩ := slice_with_positive_step_takes_every_kth xs k hk
  refine ⟨pick xs idx, ?_, h3, h4, SqProps.C13.allocList_ext s _⟩
  rw [pyGetItem_list_slice hg, h1]

/-- **reading `c[::-k]` (`k > 0`) from a list object** returns a NEW list object holding every `k`-th element from the end
    backwards, and leaves every object that existed before as it was -/
theorem negative_step_slice_read_returns_new_list (s : BState) (a : Nat) (xs : List Val) (k : Nat) (hk : 0 < k)
    (hg : s.heap.get? a = some (.list xs)) :
    ∃ ys, pyGetItem s (.ref a) (.slice none none (some (-(k : Int)))) = .ok (allocList s ys) ∧
      ys.length = (xs.length + k - 1) / k ∧ (∀ j, j < (xs.length + k - 1) / k → ys[j]? = xs[xs.length - 1 - j * k]?) ∧
      SqProps.C13.HeapExt s.heap (allocList s ys).2.heap := by
  obtain ⟨idx, h1, _, h3, h4⟩ := slice_with_negative_step_takes_every_kth_from_the_end xs k hk
  refine ⟨pick xs idx, ?_, h3, h4, SqProps.C13.allocList_ext s _⟩
  rw [pyGetItem_list_slice hg, h1]

/-- `[10, 20, 30, 40, 50][::-2]` = `[50, 30, 10]`, `[10, 20, 30, 40][::-3]` = `[40, 10]` -/
example : pick [10, 20, 30, 40, 50] ((sliceIndices 5 none none (some (-2))).toOption.getD []) = [50, 30, 10] ∧
    pick [10, 20, 30, 40] ((sliceIndices 4 none none (some (-3))).toOption.getD []) = [40, 10] := by decide +kernel

/-- reading `c[a:b:0]`-shaped slice values from a list object is refused and allocates nothing -/
theorem zero_step_slice_read_is_refused (s : BState) (a : Nat) (xs : List Val) (lo hi : Option Int)
    (hg : s.heap.get? a = some (.list xs)) :
    pyGetItem s (.ref a) (.slice lo hi (some 0)) = .error .valueError := by
  rw [pyGetItem_list_slice hg, slice_with_zero_step_is_refused]

/-- `[10, 20, 30, 40][-3:3]` = `[20, 30]`; `[1:100]` clamps; crossing bounds give `[]` -/
example : pick [10, 20, 30, 40] ((sliceIndices 4 (some (-3)) (some 3) none).toOption.getD []) = [20, 30] ∧
    pick [10, 20, 30, 40] ((sliceIndices 4 (some 1) (some 100) none).toOption.getD []) = [20, 30, 40] ∧
    pick [10, 20, 30, 40] ((sliceIndices 4 (some 3) (some 1) none).toOption.getD []) = [] := by decide +kernel

end SqProps.C14
