/-
  C19 — random builtins stay within their documented range.
  The Mersenne Twister is not modelled: `rand` / `shuffle` draw from an abstract generator state
  (`BState.rng`, any natural number); the theorems hold for EVERY state, i.e. for every admissible
  draw.  Assumed of the library (trusted base): `random()` ∈ [0,1), `randint(a,b)` ∈ [a,b],
  `choice(l)` ∈ l.
-/
import SqLemmas.RandLemmas
import SqLemmas.HeapLemmas
namespace SqProps.C19
open Sq

/-- **[B] rand() ∈ [0, 1)** for every generator state: a non-negative decimal `c · 10^(-k)` with `c < 10^k`;
    no object changes -/
theorem rand0_range (s : BState) :
    ∃ (c k : Nat) (s' : BState), b_rand [] s = .ok (.dec { neg := false, coeff := c, exp := -(k : Int) } true, s') ∧
      c < 10 ^ k ∧ s'.heap = s.heap := by
  obtain ⟨c, k, s', h, hlt, hh⟩ := randUnit_range s
  exact ⟨c, k, s', by simpa [b_rand] using h, hlt, hh⟩

/-- `rand(a, b)` for integer bounds a ≤ b of any numeric type the language's `int()` accepts:
    the result is the integer n as a Decimal with a ≤ n ≤ b — for every generator state -/
theorem rand_ab_range (a b : Val) (lo hi : Int) (s : BState)
    (ha : pyInt a = .ok lo) (hb : pyInt b = .ok hi) (hle : lo ≤ hi) :
    ∃ n : Int, ∃ s', b_rand [a, b] s = .ok (.dec (Dec.ofInt n) true, s') ∧ lo ≤ n ∧ n ≤ hi := by
  -- the two-argument arm is reached whatever `a` is, but the compiled match first asks whether `a` is a reference
  have hb2 : b_rand [a, b] s = randInt lo hi s := by
    cases a <;> simp only [b_rand, ha, hb]
  rw [hb2]
  exact randInt_range lo hi s hle

/-- a == b: the only possible result is a -/
theorem rand_aa (a : Val) (lo : Int) (s : BState) (ha : pyInt a = .ok lo) :
    ∃ s', b_rand [a, a] s = .ok (.dec (Dec.ofInt lo) true, s') := by
  obtain ⟨n, s', h, h1, h2⟩ := rand_ab_range a a lo lo s ha ha (Int.le_refl _)
  have : n = lo := by omega
  subst this
  exact ⟨s', h⟩

/-- the language's own numbers are accepted as bounds (`rand(a, b)` casts its bounds: repair D5): an integral
    decimal literal casts to its integer value -/
theorem decimal_bound_accepted (d : Dec) (c : Bool) : pyInt (.dec d c) = .ok d.toInt := rfl

/-- `rand(list)` on a list returns one of its elements and changes no object -/
theorem rand_list_member (a : Nat) (xs : List Val) (s : BState) (v : Val) (s' : BState)
    (hg : s.heap.get? a = some (.list xs))
    (h : b_rand [.ref a] s = .ok (v, s')) : v ∈ xs ∧ s'.heap = s.heap := by
  simp only [b_rand, hg] at h
  exact randChoice_member xs s v s' h

/-- **`shuffle(l)` builds one new list, a permutation of `l`, and touches nothing else** (`_shuffle` in functions.py shuffles
    a copy), for every generator state -/
theorem shuffle_pushes_permutation (a : Nat) (xs : List Val) (s : BState) (v : Val) (s' : BState)
    (hg : s.heap.get? a = some (.list xs)) (h : b_shuffle [.ref a] s = .ok (v, s')) :
    ∃ ys, List.Perm ys xs ∧ v = .ref s.heap.size ∧ s'.heap = s.heap.push (.list ys) := by
  simp only [b_shuffle, hg, allocList, Heap.alloc] at h
  cases h
  exact ⟨_, shuffle_go_perm _ _ _, rfl, rfl⟩

/-- **[B] shuffle returns a permutation** of its argument (as a new list), for every generator state -/
theorem shuffle_is_permutation (a : Nat) (xs : List Val) (s : BState) (v : Val) (s' : BState)
    (hg : s.heap.get? a = some (.list xs))
    (h : b_shuffle [.ref a] s = .ok (v, s')) :
    ∃ ys, s'.heap.get? s.heap.size = some (.list ys) ∧ v = .ref s.heap.size ∧ List.Perm ys xs := by
  obtain ⟨ys, hp, hv, hh⟩ := shuffle_pushes_permutation a xs s v s' hg h
  exact ⟨ys, by rw [hh, get?_push, if_pos rfl], hv, hp⟩

/-- `shuffle(list)` returns a NEW list object and leaves every existing object — in particular
    its argument — exactly as it was -/
theorem shuffle_new_list_arg_unchanged (a : Nat) (xs : List Val) (s : BState) (v : Val) (s' : BState)
    (hg : s.heap.get? a = some (.list xs))
    (h : b_shuffle [.ref a] s = .ok (v, s')) :
    v = .ref s.heap.size ∧ (∀ b, b < s.heap.size → s'.heap.get? b = s.heap.get? b) ∧
    ∃ ys, s'.heap.get? s.heap.size = some (.list ys) ∧ ys.length = xs.length := by
  obtain ⟨ys, hp, hv, hh⟩ := shuffle_pushes_permutation a xs s v s' hg h
  rw [hh]
  exact ⟨hv, (C13.alloc_ext s.heap (.list ys)).2, ys, by rw [get?_push, if_pos rfl], hp.length_eq⟩

end SqProps.C19
