/-
  C18 — list_names reports every name an evaluation can ask the host for.
  [A]: `list_names` yields exactly the NAME tokens of the very lexer the parser uses, in order, up
  to the first lexical error; a NAME token is never a keyword; `NameOp` and `CallOp` ask for the name written in the
  node, and entering a literal, binary operation, conditional, lambda, slice or assignment node leaves the world as it is.
  [B] `tree_names_from_tokens` / `mentioned_names_are_listed`: every identifier occurring anywhere in a
  parsed tree (variable, callee, parameter, assignment target) is the value of a NAME token of the text — hence
  in `list_names(src)` — or one of the six implicit names (induction over the levelled derivation relation, lifted to
  the parser by `Sq.sound`; SqLemmas/ParseNames.lean).
  [B] `evaluation_looks_up_only_listed_names`: over WHOLE RUNS of the machine — through lambdas, map / filter /
  reduce / sorted callbacks, host trampolines, assignments and their deep copies — every name the evaluator looks up
  is a name `list_names(src)` reports or an implicit one (generic configuration invariant, SqLemmas/Inv*.lean).
-/
import Sq.Session
import SqLemmas.ParseNames
import SqLemmas.LexLemmas
import SqLemmas.InvNames
namespace SqProps.C18
open Sq

/-- `list_names(src)` fully consumed = the values of the NAME tokens the lexer delivers (in
    order), and the lexical error if there is one -/
theorem list_names_eq_name_tokens (s : Session) (src : List Char) :
    (listNamesCall s src none).1 =
      match lexFrom LexSt.init src with
      | .ok (ts, _) => ((ts.filter (·.ty == .NAME)).map (·.val), none)
      | .error (e, pre) => ((pre.filter (·.ty == .NAME)).map (·.val), some e) := by
  show listNamesResult LexSt.init src none = _
  unfold listNamesResult
  cases lexFrom LexSt.init src <;> rfl

/-- a keyword is never reported: identifiers and %…% lexemes get type NAME only if they are not
    in the keyword table -/
theorem keyword_is_not_name (v : List Char) (t : Tk) (h : (reservedTable.find? (fun p => p.1.toList == v)) = some (v', t)) :
    lookupReserved v = t := by
  simp [lookupReserved, h]

theorem keywords_are_not_NAME : ∀ p ∈ reservedTable, p.2 ≠ Tk.NAME := by decide

/-- strings and comments produce no NAME token: a quoted string is one STRING token … -/
theorem dq_string_is_string_token (st : LexSt) (cs b r : List Char) (hb : strBody '"' cs = some (b, r)) :
    ∃ v, lexStep st ('"' :: cs) = mk .STRING v st (b.length + 2) 0 r := lexStep_quote st (.inl rfl) hb

theorem sq_string_is_string_token (st : LexSt) (cs b r : List Char) (hb : strBody '\'' cs = some (b, r)) :
    ∃ v, lexStep st ('\'' :: cs) = mk .STRING v st (b.length + 2) 0 r := lexStep_quote st (.inr rfl) hb

/-- … and a comment produces no token at all -/
theorem comment_no_token (st : LexSt) (cs : List Char) :
    ∃ st', lexStep st ('#' :: cs) = .skip st' (dropLine cs) :=
  ⟨_, lexStep_hash st cs⟩

/-- the evaluator asks the scope stack for exactly the name written in the node -/
theorem nameop_looks_up_its_name (n : Name) (vmi : Nat) (k : List Frame) (w : World) (vm : VM)
    (hv : w.vm? vmi = some vm) :
    enter (.name n) vmi k w =
      match lookupName w.heap vm.scopes n with
      | some v => mkRet v k w
      | none => mkRaise (.parser "Undefined variable") k w := by
  simp only [enter, hv]
  cases lookupName w.heap vm.scopes n <;> rfl

theorem callop_looks_up_its_name (n : Name) (args : List Val) (vmi : Nat) (k : List Frame) (w : World) (vm : VM)
    (hv : w.vm? vmi = some vm) :
    doCall n args vmi k w =
      match lookupName w.heap vm.scopes n with
      | none => mkRaise (.parser "Undefined function") k w
      | some f => callVal callFuel f args k w := by
  simp only [doCall, hv]
  cases lookupName w.heap vm.scopes n <;> rfl

/-- literals, operators, conditionals, lambdas creation, slices do not consult the names at all:
    entering them leaves the world untouched and looks nothing up -/
theorem other_nodes_do_not_look_up (vm : Nat) (k : List Frame) (w : World) :
    (∀ l, (enter (.value l) vm k w).w = w) ∧ (∀ bk a b, (enter (.bin bk a b) vm k w).w = w) ∧
    (∀ c a b, (enter (.ifx c a b) vm k w).w = w) ∧ (∀ ps b, (enter (.lambda ps b) vm k w).w = w) ∧
    (∀ a b c, (enter (.slice a b c) vm k w).w = w) ∧ (∀ n v, (enter (.assign n v) vm k w).w = w) := by
  refine ⟨?_, ?_, ?_, ?_, ?_, ?_⟩
  · intro l; cases l <;> rfl
  all_goals intros; rfl

/-- the implicit names that syntax sugar maps to -/
def implicitNames : List String := ["list", "dict", "__getitem__", "__setitem__", "__delitem__", "__setitem_with_op__"]

theorem implicit_names_are_builtins : ∀ n ∈ implicitNames, n ∈ builtinNames := by decide +kernel

/-- **[B]** every identifier of a parsed tree is a NAME token of the token list it was parsed from,
    or an implicit name — for every token list the parser accepts -/
theorem tree_names_from_tokens {ts : List Token} {tree : Op} (h : parseTokens ts = .ok tree) :
    ∀ x, Mentions tree x → TokName ts x ∨ x ∈ implicitNameList := parsed_names_are_tokens h

/-- the implicit names of the lemma are the six documented ones, all builtins -/
theorem implicit_list_is_documented : implicitNameList = implicitNames.map String.toList := rfl

/-- **[B] list_names covers the tree**: for every text that lexes and parses, every identifier the tree
    mentions is reported by `list_names(src)` (or is implicit).  With `nameop_looks_up_its_name` /
    `callop_looks_up_its_name` (the evaluator asks only for names written in nodes) this is the
    "consequently" clause of the property. -/
theorem mentioned_names_are_listed (s : Session) (src : List Char) (ts : List Token) (st' : LexSt)
    (hlex : lexFrom LexSt.init src = .ok (ts, st')) (tree : Op) (hp : parseTokens ts = .ok tree) :
    ∀ x, Mentions tree x → x ∈ (listNamesCall s src none).1.1 ∨ x ∈ implicitNameList :=
  fun x hx => (tree_names_from_tokens hp x hx).imp_left fun ⟨t, hm, hty, hv⟩ => by
    rw [list_names_eq_name_tokens, hlex]
    exact List.mem_map.mpr ⟨t, List.mem_filter.mpr ⟨hm, by simp [hty]⟩, hv⟩

open Sq.Inv in
/-- **every lookup of a whole evaluation is for a mentioned name**: let the program `tree`, the `ast_names` trees and the
    closures already present in the host's world mention only names in `S`; then at every step of the run, through
    every lambda call, callback of map / filter / reduce / sorted, host trampoline and assignment, the name the machine
    looks up (`lookupOf`) is in `S` -/
theorem lookups_are_mentioned (S : Name → Prop) (w : World) (bs : List Nat) (namesAddr budget : Nat) (tree : Op)
    (astNames : List (Name × Op))
    (hw : WorldNPg (fun _ body _ => MentionsIn S body) (fun _ => True) (fun _ => True) (fun _ => True) w)
    (ht : MentionsIn S tree) (ha : ∀ p, p ∈ astNames → MentionsIn S p.2) (i : Nat) (n : Name)
    (hl : lookupOf (run i (initCfg w bs namesAddr budget tree astNames)).core = some n) : S n :=
  run_lookups_in S _ (init_names_inv S w bs namesAddr budget tree astNames hw ht ha) i n hl

open Sq.Inv in
/-- **the "consequently" clause of C18, over whole runs**: for a text that lexes and parses, evaluated against a host
    world that holds no closures (plain data, builtins, host callables), every name any step of the evaluation looks
    up — in the host's names mapping first, then in the builtins — is reported by `list_names(src)` or is one of the
    six implicit names -/
theorem evaluation_looks_up_only_listed_names (s : Session) (src : List Char) (ts : List Token) (st' : LexSt)
    (hlex : lexFrom LexSt.init src = .ok (ts, st')) (tree : Op) (hp : parseTokens ts = .ok tree)
    (w : World) (bs : List Nat) (namesAddr budget : Nat)
    (hw : WorldNPg (fun _ _ _ => False) (fun _ => True) (fun _ => True) (fun _ => True) w) (i : Nat) (n : Name)
    (hl : lookupOf (run i (initCfg w bs namesAddr budget tree)).core = some n) :
    n ∈ (listNamesCall s src none).1.1 ∨ n ∈ implicitNameList := by
  refine lookups_are_mentioned (fun x => x ∈ (listNamesCall s src none).1.1 ∨ x ∈ implicitNameList) w bs namesAddr budget
    tree [] (hw.mono (fun _ _ _ h => h.elim) (fun _ h => h) (fun _ h => h)) ?_ (fun p hp => by cases hp) i n hl
  exact mentioned_names_are_listed s src ts st' hlex tree hp

open Sq.Inv in
/-- the lookup classifier agrees with the one-transition lemmas above: a variable node looks up its own name -/
example (n : Name) (vmi : Nat) (k : List Frame) (w : World) :
    lookupOf { ctl := .ev (.name n) vmi, k := k, w := w } = some n := rfl

open Sq.Inv in
/-- non-vacuity: a host world binding `x` to a list of numbers and strings satisfies the hypothesis -/
example : WorldNPg (fun _ _ _ => False) (fun _ => True) (fun _ => True) (fun _ => True)
    { heap := #[.dict [(.str ['x'], .ref 1)], .list [.int 1, .str ['a']]], vms := [], log := [], rng := 0, rx := [],
      probes := [] } := by
  refine ⟨⟨?_, fun _ _ => trivial⟩, fun a h => (by cases h), fun p h => (by cases h)⟩
  intro a o hg
  match a with
  | 0 =>
    simp [Heap.get?] at hg; subst hg
    intro kv hkv; simp at hkv; subst hkv; exact ⟨.str, .ref trivial⟩
  | 1 =>
    simp [Heap.get?] at hg; subst hg
    intro v hv; simp at hv; rcases hv with e | e <;> subst e
    · exact .int
    · exact .str
  | n + 2 => simp [Heap.get?] at hg

example : (listNamesResult LexSt.init "f(x, %my var%) + 'str' # c\nfor y".toList none).1 =
    ["f".toList, "x".toList, "%my var%".toList, "y".toList] := by decide +kernel
example : (listNamesResult LexSt.init "a = b.c(d => d)".toList none).1 =
    ["a".toList, "b".toList, "c".toList, "d".toList, "d".toList] := by decide +kernel

end SqProps.C18
