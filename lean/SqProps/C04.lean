/-
  C04 — arithmetic stays in bounded-precision decimals; numbers cannot blow up.
  `*` and `**` (as operators) return a 28-digit Decimal or raise, for operands of every host
  numeric type, and never repeat strings or lists; `+ - /` and unary minus on decimals go through
  `fix` (≤ 28 digits).  Counterexamples (findings): compound `*=` uses the native operator (D12),
  `int()` of a huge-exponent decimal is exact (D13).  The numeric builtins: `min` / `max` return one of what they were given,
  `sum` over decimals and `round(x, n)` stay within 28 digits.
-/
import Sq.Machine
import SqLemmas.DivLemmas
import SqLemmas.NumLemmas
import SqLemmas.BuiltinTable
namespace SqProps.C04
open Sq

/-- every context operation of the decimal model ends in `fix`: its result has ≤ 28 digits -/
theorem dec_ops_fix_digits (x y d : Dec) :
    (Dec.add x y = .ok d → d.digits ≤ 28) ∧ (Dec.sub x y = .ok d → d.digits ≤ 28) ∧
    (Dec.mul x y = .ok d → d.digits ≤ 28) ∧ (Dec.div x y = .ok d → d.digits ≤ 28) ∧
    (Dec.neg' x = .ok d → d.digits ≤ 28) ∧ (Dec.abs' x = .ok d → d.digits ≤ 28) := by
  refine ⟨Dec.fix_digits _ d, Dec.fix_digits _ d, Dec.fix_digits _ d, fun h => Dec.fix_digits _ _ (Dec.div_ok x y d h).2, ?_, ?_⟩
  · intro h
    unfold Dec.neg' at h
    split at h <;> exact Dec.fix_digits _ _ h
  · intro h
    unfold Dec.abs' Dec.neg' Dec.pos' at h
    split at h <;> split at h <;> exact Dec.fix_digits _ _ h

/-- `abs` of a decimal goes through the context: ≤ 28 digits -/
theorem abs_dec_digits (x d : Dec) (h : Dec.abs' x = .ok d) : d.digits ≤ 28 := (dec_ops_fix_digits x x d).2.2.2.2.2 h

/-- **`*` computes in 28-digit decimal arithmetic or raises**, for every pair of operands of
    every type: the result is never a str / list / tuple (no repetition) and never a long int -/
theorem mul_is_decimal (w : World) (a b : Val) (v : Val) (w' : World)
    (h : applyBin w .mul a b = .ok (v, w')) : ∃ d, v = .dec d false ∧ d.digits ≤ 28 := by
  unfold applyBin at h
  simp only [] at h
  split at h
  · -- a non-number operand: ParserError (or the model's explicit unmodelled), never a value
    split at h <;> simp [U] at h
  · split at h
    · obtain ⟨r, hm, e⟩ := map_eq_ok h
      cases e
      exact liftDec_all (Dec.fix_digits _) hm
    · simp [U] at h

/-- a non-numeric operand of `*` is refused with a ParserError -/
theorem mul_refuses_non_numbers (w : World) (s : List Char) (b : Val) :
    applyBin w .mul (.str s) b = .error (.parser "Can't multiply non-numbers") ∨
    ∃ u, applyBin w .mul (.str s) b = .error (.unmodelled u) := by
  -- the second alternative is the `.opaque` operand
  cases b <;> first | exact .inl rfl | exact .inr ⟨_, rfl⟩

/-- the modelled part of `Decimal ** Decimal` returns ≤ 28 digits -/
theorem decPow_digits (x y : Dec) (v : Val) (hp : decPow x y = .ok v) : ∃ d, v = .dec d false ∧ d.digits ≤ 28 := by
  obtain ⟨_, _, ⟨_, _, rfl⟩ | ⟨_, h⟩⟩ := decPow_ok hp
  · exact ⟨_, rfl, (by decide : Dec.ndigits 0 ≤ 28)⟩
  · exact liftDec_all (Dec.fix_digits _) h

/-- **`**` as an operator returns a decimal with ≤ 28 digits, or an error**, whatever the operands -/
theorem pow_is_decimal (w : World) (a b : Val) (v : Val) (w' : World)
    (h : applyBin w .pow a b = .ok (v, w')) : ∃ d, v = .dec d false ∧ d.digits ≤ 28 := by
  unfold applyBin at h
  simp only [] at h
  split at h
  · simp at h
  · split at h
    · simp at h
    · obtain ⟨r, hp, e⟩ := map_eq_ok h
      cases e
      exact decPow_digits _ _ _ hp

/-- adding a decimal to an int, a bool or a decimal goes through the 28-digit context -/
theorem add_to_dec_digits (h : Heap) (acc : Val) (y : Dec) (cy : Bool) (v : Val) (h' : Heap)
    (hacc : ∃ a, toDec? acc = some a) (hh : pyAdd h acc (.dec y cy) = .ok (v, h')) :
    ∃ d, v = .dec d false ∧ d.digits ≤ 28 := by
  obtain ⟨a, ha⟩ := hacc
  -- a decimal is no int, so `+` takes its decimal arm whatever `toInt? acc` is
  have hdec : pyAdd h acc (.dec y cy) = (liftDec (Dec.add a y)).map (·, h) := by
    unfold pyAdd
    rw [ha]
    cases toInt? acc <;> rfl
  obtain ⟨r, hm, e⟩ := map_eq_ok (hdec ▸ hh)
  cases e
  exact liftDec_all (Dec.fix_digits _) hm

/-- `+`, `-`, `/` and unary minus on two decimals are rounded to 28 digits -/
theorem add_dec_digits (h : Heap) (x y : Dec) (cx cy : Bool) (v : Val) (h' : Heap)
    (hh : pyAdd h (.dec x cx) (.dec y cy) = .ok (v, h')) : ∃ d, v = .dec d false ∧ d.digits ≤ 28 :=
  add_to_dec_digits h (.dec x cx) y cy v h' ⟨x, rfl⟩ hh

theorem neg_dec_digits (x : Dec) (c : Bool) (v : Val) (hh : pyNeg (.dec x c) = .ok v) :
    ∃ d, v = .dec d false ∧ d.digits ≤ 28 :=
  liftDec_all (fun d => (dec_ops_fix_digits x x d).2.2.2.2.1) hh

/-- `-` and `/` as operators: whatever the operand types, a Decimal result has ≤ 28 digits -/
theorem sub_div_digits (a b v : Val) :
    (pySub a b = .ok v → (∃ d, v = .dec d false ∧ d.digits ≤ 28) ∨ ∃ i, v = .int i) ∧
    (pyDiv a b = .ok v → ∃ d, v = .dec d false ∧ d.digits ≤ 28) := by
  constructor
  · intro h
    rcases pySub_ok h with ⟨_, _, _, _, rfl⟩ | ⟨x, y, _, _, h⟩
    · exact .inr ⟨_, rfl⟩
    · exact .inl (liftDec_all (fun d => (dec_ops_fix_digits x y d).2.1) h)
  · intro h
    obtain ⟨x, y, _, _, h⟩ := pyDiv_ok h
    exact liftDec_all (fun d => (dec_ops_fix_digits x y d).2.2.2.1) h

/-- two host ints added stay ints and grow by at most one digit (exact integer addition) -/
theorem add_int_exact (h : Heap) (x y : Int) : pyAdd h (.int x) (.int y) = .ok (.int (x + y), h) := by
  simp [pyAdd, toInt?]

/-- D12 (finding): the compound assignment `*=` uses the NATIVE operator — on two host ints the
    exact product (digits add up), on a str and a host int repetition -/
theorem imul_native_counterexample :
    pyMulNative #[] (.int (10 ^ 30)) (.int (10 ^ 30)) = .ok (.int (10 ^ 60), #[]) ∧
    pyMulNative #[] (.str ['a', 'b']) (.int 3) = .ok (.str ['a', 'b', 'a', 'b', 'a', 'b'], #[]) := by
  constructor
  · simp [pyMulNative, toInt?]
  · rfl

/-- D12 in general: off lists, `*=` is the native `*` (`pyMulNative`), not the 28-digit `*` of the operator node -/
theorem imul_is_native (s : BState) (cur v : Val) :
    pyInplace s .imul cur v = match cur with
      | .ref a => (match s.heap.get? a, toInt? v with
        | some (.list xs), some n =>
          if xs.length * n.toNat > 1000000 then U "repeat-huge" else
          ret (.ref a) { s with heap := s.heap.set a (.list ((List.replicate n.toNat xs).flatten)) }
        | _, _ => .error .typeError)
      | _ => (pyMulNative s.heap cur v).map (fun (r, h) => (r, { s with heap := h })) := by
  cases cur <;> rfl

/-- D13 (finding): `int()` of a decimal is exact, whatever its exponent — `int(1E+k)` has k+1
    digits (parametric in k; the monitor replays k = 99999 on the implementation) -/
theorem int_of_power_of_ten (k : Nat) :
    Dec.toInt { neg := false, coeff := 1, exp := k } = ((10 ^ k : Nat) : Int) := by
  simp [Dec.toInt]

/-- **`min` never widens a number**: called with several arguments it returns ONE OF THEM (so its digits are those of an
    argument), called with one container it returns one of its elements -/
theorem min_returns_an_argument (args : List Val) (s : BState) (v : Val) (s' : BState) (h : b_min args s = .ok (v, s')) :
    s' = s ∧ (v ∈ args ∨ ∃ c items, args = [c] ∧ iterItems s.heap c = .ok items ∧ v ∈ items) :=
  bExtreme_ok (b_min_eq ▸ h)

/-- **`max` never widens a number** either: one of its arguments, or one element of its one container -/
theorem max_returns_an_argument (args : List Val) (s : BState) (v : Val) (s' : BState) (h : b_max args s = .ok (v, s')) :
    s' = s ∧ (v ∈ args ∨ ∃ c items, args = [c] ∧ iterItems s.heap c = .ok items ∧ v ∈ items) :=
  bExtreme_ok (b_max_eq ▸ h)

/-- the running total of `sum`: as soon as one decimal has been added (to an int, a bool or a decimal) it is a decimal
    of at most 28 digits, and it stays one -/
theorem sum_go_digits : ∀ (xs : List Val) (acc : Val) (h : Heap) (v : Val) (h' : Heap),
    xs ≠ [] → (∀ x ∈ xs, ∃ d c, x = .dec d c) → (∃ a, toDec? acc = some a) →
    xs.foldlM (fun (acc : Val × Heap) x => pyAdd acc.2 acc.1 x) (acc, h) = .ok (v, h') →
    ∃ d, v = .dec d false ∧ d.digits ≤ 28
  | x :: xs, acc, h, v, h', _, hx, hacc, hr => by
    obtain ⟨d, c, rfl⟩ := hx x (List.mem_cons_self ..)
    rw [List.foldlM_cons] at hr
    cases hp : pyAdd h acc (.dec d c) with
    | error e => rw [hp] at hr; cases hr
    | ok p =>
      rw [hp] at hr
      -- the first addition makes the total a decimal of at most 28 digits; every later one keeps it so
      refine foldlM_ok (fun p : Val × Heap => ∃ d, p.1 = .dec d false ∧ d.digits ≤ 28) xs ?_ p (v, h')
        (add_to_dec_digits h acc d c p.1 p.2 hacc hp) hr
      intro b a b' ha ⟨d0, e0, _⟩ hb
      obtain ⟨d1, c1, rfl⟩ := hx a (List.mem_cons_of_mem _ ha)
      exact add_to_dec_digits b.2 b.1 d1 c1 b'.1 b'.2 ⟨d0, by rw [e0]; rfl⟩ hb

/-- **`sum` over a non-empty list of decimals is a decimal of at most 28 significant digits** (each partial sum goes
    through the context: 0 + x₁ is already a decimal), however long the list and however large its elements -/
theorem sum_of_decimals_digits (a : Nat) (xs : List Val) (s : BState) (v : Val) (s' : BState)
    (hl : s.heap.get? a = some (.list xs)) (hne : xs ≠ []) (hx : ∀ x ∈ xs, ∃ d c, x = .dec d c)
    (h : b_sum [.ref a] s = .ok (v, s')) : ∃ d, v = .dec d false ∧ d.digits ≤ 28 := by
  unfold b_sum at h
  simp only [hl] at h
  split at h
  · rename_i v0 h0 hr
    cases h
    exact sum_go_digits xs (.int 0) s.heap v h0 hne hx ⟨Dec.ofInt 0, rfl⟩ hr
  · cases h

/-- **`round(x, n)` of a decimal is a decimal of at most 28 digits** (it is `quantize` under the default context, which
    refuses — InvalidOperation — a result that would need more) -/
theorem round_digits_arg (d : Dec) (c : Bool) (nd v : Val) (hnd : nd ≠ .none) (h : bRound [.dec d c, nd] = .ok v) :
    ∃ r, v = .dec r true ∧ r.digits ≤ 28 := by
  unfold bRound at h
  simp only [] at h
  cases hn : pyInt nd with
  | error e =>
    -- the digit count is `pyInt nd` (as `nd` is not `None`): when that fails, so does `round`
    cases nd <;> first | exact absurd rfl hnd | (simp [hn, Except.map] at h)
  | ok k =>
    rw [hn] at h
    simp only [Except.map] at h
    split at h
    · rename_i r hr
      cases h
      exact ⟨r, rfl, (Dec.quantize_ok _ r _ hr).2.1⟩
    · cases h

end SqProps.C04
