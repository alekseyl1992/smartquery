/-
  C08 — the statements of SqProps.C08 against ℚ (`toRat`, SqLemmas.RatSpec): every operation returns the real result
  of the operands' values, rounded once to within half a unit of the result's last place; comparisons are the order of ℚ.
-/
import SqProps.C08
import SqLemmas.RatSpec
import SqLemmas.NumLemmas
namespace SqProps.C08
open Sq Sq.Dec

/-- a literal denotes exactly the rational it spells: all its digits over 10^(number of fraction digits) -/
theorem literal_denotes_its_spelling (ip fp : List Char) (d : Dec) (h : ofLiteral ip fp = some d) :
    ∃ c : Nat, digitsVal? (ip ++ fp) 0 = some c ∧ d.toRat = (c : ℚ) / 10 ^ fp.length := by
  obtain ⟨h1, h2, h3⟩ := literal_exact ip fp d h
  refine ⟨d.coeff, h1, ?_⟩
  unfold toRat
  rw [h2, h3, zpow_neg, zpow_natCast]
  simp [sgn, div_eq_mul_inv]

/-- **`+ - * /` are the operations of ℚ, rounded once**: whenever the operation returns `r`, `r` is within half a unit of
    its own last place (`10^r.exp`) of the real sum / difference / product / quotient of the operands' values; `r` has at
    most 28 significant digits (`fix_result_digits`), ties go to the even coefficient (`fix_rounds_to_nearest`,
    `division_is_correctly_rounded`).  There is no binary fraction anywhere: 0.1 denotes 1/10. -/
theorem arithmetic_is_correctly_rounded (a b r : Dec) :
    (Dec.add a b = .ok r → |r.toRat - (a.toRat + b.toRat)| ≤ (1 / 2) * 10 ^ r.exp) ∧
    (Dec.sub a b = .ok r → |r.toRat - (a.toRat - b.toRat)| ≤ (1 / 2) * 10 ^ r.exp) ∧
    (Dec.mul a b = .ok r → |r.toRat - a.toRat * b.toRat| ≤ (1 / 2) * 10 ^ r.exp) ∧
    (Dec.div a b = .ok r → |r.toRat - a.toRat / b.toRat| ≤ (1 / 2) * 10 ^ r.exp) := by
  refine ⟨fun h => ?_, fun h => ?_, fun h => ?_, div_half_ulp a b r⟩
  · rw [← addExact_toRat]; exact fix_half_ulp _ r h
  · rw [sub_eq_add_neg a.toRat, ← negate_toRat, ← addExact_toRat]; exact fix_half_ulp _ r h
  · rw [← mulExact_toRat]; exact fix_half_ulp _ r h

/-- **exact whenever the real result fits**: if the exact sum / product has at most 28 digits (and its exponent is in
    range), the operation returns a decimal denoting EXACTLY the real result -/
theorem add_exact_in_Q (a b : Dec) (hnz : (addExact a b).coeff ≠ 0) (hd : ndigits (addExact a b).coeff ≤ 28)
    (he1 : etiny ≤ (addExact a b).exp) (he2 : (ndigits (addExact a b).coeff : Int) + (addExact a b).exp - prec ≤ etop) :
    ∃ r, Dec.add a b = .ok r ∧ r.toRat = a.toRat + b.toRat := by
  refine ⟨addExact a b, fix_id_when_fits _ hnz hd he1 he2, addExact_toRat a b⟩

theorem mul_exact_in_Q (a b : Dec) (hnz : (mulExact a b).coeff ≠ 0) (hd : ndigits (mulExact a b).coeff ≤ 28)
    (he1 : etiny ≤ (mulExact a b).exp) (he2 : (ndigits (mulExact a b).coeff : Int) + (mulExact a b).exp - prec ≤ etop) :
    ∃ r, Dec.mul a b = .ok r ∧ r.toRat = a.toRat * b.toRat := by
  refine ⟨mulExact a b, fix_id_when_fits _ hnz hd he1 he2, mulExact_toRat a b⟩

/-- `a / b = ± (divNum / divDen) · 10^divExp` as an identity of rationals (what `division_is_correctly_rounded` rounds) -/
theorem quotient_identity (a b : Dec) (hb : b.coeff ≠ 0) :
    a.toRat / b.toRat = sgn (a.neg != b.neg) * ((divNum a b : ℚ) / (divDen a b : ℚ)) * (10 : ℚ) ^ (divExp a b) :=
  toRat_div a b hb

/-- **comparisons are the order of ℚ** -/
theorem comparisons_are_rational_order (a b : Dec) :
    (Dec.lt a b = true ↔ a.toRat < b.toRat) ∧ (Dec.eq a b = true ↔ a.toRat = b.toRat) ∧ (Dec.le a b = true ↔ a.toRat ≤ b.toRat) := by
  -- `cmp` compares the exact integers at the common exponent (`cmp_is_exact_order`); each value is its integer times 10^min
  have ha : (scaled a (min a.exp b.exp) : ℚ) * 10 ^ min a.exp b.exp = a.toRat :=
    scaled_toRat a.neg a.coeff a.exp _ (min_le_left _ _)
  have hb : (scaled b (min a.exp b.exp) : ℚ) * 10 ^ min a.exp b.exp = b.toRat :=
    scaled_toRat b.neg b.coeff b.exp _ (min_le_right _ _)
  unfold Dec.lt Dec.eq Dec.le
  rw [cmp_is_exact_order, ← ha, ← hb]
  generalize scaled a (min a.exp b.exp) = ca
  generalize scaled b (min a.exp b.exp) = cb
  have hp := zpow10_pos (min a.exp b.exp)
  have l1 : (ca : ℚ) * 10 ^ min a.exp b.exp < cb * 10 ^ min a.exp b.exp ↔ ca < cb := by
    rw [mul_lt_mul_iff_left₀ hp]; exact Int.cast_lt
  have l2 : (ca : ℚ) * 10 ^ min a.exp b.exp = cb * 10 ^ min a.exp b.exp ↔ ca = cb := by
    rw [mul_left_inj' (ne_of_gt hp)]; exact Int.cast_inj
  have l3 : (ca : ℚ) * 10 ^ min a.exp b.exp ≤ cb * 10 ^ min a.exp b.exp ↔ ca ≤ cb := by
    rw [mul_le_mul_iff_left₀ hp]; exact Int.cast_le
  rw [l1, l2, l3]
  refine ⟨?_, ?_, ?_⟩
  · rw [beq_iff_eq, Int.compare_eq_lt]
  · rw [beq_iff_eq, Int.compare_eq_eq]
  · rw [bne_iff_ne, ne_eq, Int.compare_eq_gt]; omega

/-- **`round(x, n)` in ℚ** (the builtin computes `quantize x (-n)`, Sq/Builtins.lean `bRound`): whenever it returns `r`, `r` has
    exactly `n` fraction digits (exponent `-n`), lies within half a unit of that place of `x`, and IS `x` when `x` has no
    more than `n` fraction digits; a value exactly half-way goes to the even neighbour -/
theorem round_to_places_is_nearest (a r : Dec) (e : Int) (h : quantize a e = .ok r) :
    r.exp = e ∧ |r.toRat - a.toRat| ≤ (1 / 2) * 10 ^ e ∧ (e ≤ a.exp → r.toRat = a.toRat) ∧
    (a.coeff ≠ 0 → a.exp < e →
      (2 * a.coeff = 2 * (r.coeff * 10 ^ (e - a.exp).toNat) + 10 ^ (e - a.exp).toNat ∨
       2 * (r.coeff * 10 ^ (e - a.exp).toNat) = 2 * a.coeff + 10 ^ (e - a.exp).toNat) → r.coeff % 2 = 0) := by
  rw [quantize_is_rescale a r e h]
  refine ⟨(rescale_cases a e).2.1, (rescale_half_ulp a e).1, (rescale_half_ulp a e).2, fun hz hlt => ?_⟩
  rcases (rescale_cases a e).2.2 with ⟨h0, _⟩ | ⟨_, hge, _⟩ | ⟨_, _, hco⟩
  · exact absurd h0 hz
  · omega
  · rw [hco]; exact (roundRat_nearest a.coeff _ (Nat.pow_pos (by decide))).2

/-- **one-argument `round(x)` in ℚ**: the integer returned is within 1/2 of `x` -/
theorem round_to_integer_is_nearest (a : Dec) : |((toIntRound a .halfEven : Int) : ℚ) - a.toRat| ≤ 1 / 2 := by
  unfold toIntRound
  rw [toInt_exp0 _ (rescale_cases a 0).2.1]
  simpa using (rescale_half_ulp a 0).1

/-- round(2.675, 2) = 2.68 and round(2.665, 2) = 2.66 (ties to even; binary floats give 2.67 / 2.67), round(2.5) = 2 -/
example : quantize ⟨false, 2675, -3⟩ (-2) = .ok ⟨false, 268, -2⟩ ∧ quantize ⟨false, 2665, -3⟩ (-2) = .ok ⟨false, 266, -2⟩ ∧
    toIntRound ⟨false, 25, -1⟩ .halfEven = 2 := by decide +kernel

/-- **`**` in ℚ** (the part of `**` the model speaks about: an integral exponent 0..200 written plainly and an exact power of
    at most 28 digits; the rest is `unmodelled` and decided by correspondence with CPython): the result is within half a unit
    of its last place of the real power -/
theorem power_is_correctly_rounded (x y r : Dec) (c : Bool) (h : decPow x y = .ok (.dec r c)) :
    ∃ N : Nat, y.toRat = (N : ℚ) ∧ |r.toRat - x.toRat ^ N| ≤ (1 / 2) * 10 ^ r.exp := by
  obtain ⟨he, hn, hv⟩ := decPow_ok h
  refine ⟨y.coeff, by simp [Dec.toRat, he, hn, Dec.sgn], ?_⟩
  rcases hv with ⟨hz, hN, hv⟩ | ⟨_, hv⟩
  · cases hv
    rw [Dec.toRat_zero x hz, Dec.toRat_zero _ rfl, zero_pow hN]
    simp
  · obtain ⟨d, hd, hv⟩ := liftDec_ok hv
    cases hv
    rw [← powExact_toRat]
    exact Dec.fix_half_ulp _ _ hd

/-- 1.1 ** 2 = 1.21, (-0.5) ** 3 = -0.125 -/
example : decPow ⟨false, 11, -1⟩ ⟨false, 2, 0⟩ = .ok (.dec ⟨false, 121, -2⟩ false) ∧
    decPow ⟨true, 5, -1⟩ ⟨false, 3, 0⟩ = .ok (.dec ⟨true, 125, -3⟩ false) := ⟨by rfl, by rfl⟩

/-- 0.1 + 0.2 denotes exactly 3/10 (the float sum does not) -/
example : ∃ r, Dec.add ⟨false, 1, -1⟩ ⟨false, 2, -1⟩ = .ok r ∧ r.toRat = 3 / 10 := by
  refine ⟨⟨false, 3, -1⟩, by decide +kernel, ?_⟩
  norm_num [toRat, sgn]

end SqProps.C08
