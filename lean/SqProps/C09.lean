/-
  C09 — lazy and / or / if-else; all other operands evaluated once, left to right.
  First one machine transition at a time (`enter` on a node, `resume` / `unwind` on a frame), for every continuation `k` and
  world `w`, hence at every position of every program; then, by the frame lemma (`eval_in_context`), whole sub-evaluations:
  operators, argument lists, dict parts, slice bounds, and the callbacks of map / filter / reduce (`hof_big_step`).
-/
import SqLemmas.Local
namespace SqProps.C09
open Sq

/-- `a and b` starts by evaluating `a` only; `b` waits unevaluated in the frame -/
theorem and_or_enter (bk : BinK) (a b : Op) (vm : Nat) (k : List Frame) (w : World) :
    enter (.bin bk a b) vm k w = { ctl := .ev a vm, k := .binL bk b vm :: k, w := w } := rfl

/-- `a and b` with `a` falsy: the result is `a`'s value itself and `b` is never entered -/
theorem and_lazy (b : Op) (vm : Nat) (v : Val) (k : List Frame) (w : World)
    (h : truthy w.heap v = false) : resume (.binL .and b vm) v k w = mkRet v k w := by
  unfold resume; simp only [h]; rfl

/-- `a and b` with `a` truthy: `b` is evaluated next and its value is the result (no frame left) -/
theorem and_takes_rhs (b : Op) (vm : Nat) (v : Val) (k : List Frame) (w : World)
    (h : truthy w.heap v = true) : resume (.binL .and b vm) v k w = { ctl := .ev b vm, k := k, w := w } := by
  unfold resume; simp only [h]; rfl

theorem or_lazy (b : Op) (vm : Nat) (v : Val) (k : List Frame) (w : World)
    (h : truthy w.heap v = true) : resume (.binL .or b vm) v k w = mkRet v k w := by
  unfold resume; simp only [h]; rfl

theorem or_takes_rhs (b : Op) (vm : Nat) (v : Val) (k : List Frame) (w : World)
    (h : truthy w.heap v = false) : resume (.binL .or b vm) v k w = { ctl := .ev b vm, k := k, w := w } := by
  unfold resume; simp only [h]; rfl

/-- `x if c else y`: `c` first … -/
theorem ifexpr_cond_first (c a b : Op) (vm : Nat) (k : List Frame) (w : World) :
    enter (.ifx c a b) vm k w = { ctl := .ev c vm, k := .ifK a b vm :: k, w := w } := rfl

/-- … then exactly one branch; the other one is dropped with the frame -/
theorem ifexpr_one_branch (a b : Op) (vm : Nat) (v : Val) (k : List Frame) (w : World) :
    resume (.ifK a b vm) v k w =
      { ctl := .ev (if truthy w.heap v then a else b) vm, k := k, w := w } := by
  show (if truthy w.heap v = true then _ else _) = _
  cases truthy w.heap v <;> rfl

/-- every other binary operator: left operand, then right operand, then the operation -/
theorem strict_bin_left_then_right (bk : BinK) (b : Op) (vm : Nat) (v : Val) (k : List Frame) (w : World)
    (h1 : bk ≠ .and) (h2 : bk ≠ .or) :
    resume (.binL bk b vm) v k w = { ctl := .ev b vm, k := .binR bk v :: k, w := w } := by
  unfold resume
  -- `h1`, `h2` are the side conditions of the last arm of `match bk`
  simp only []

/-- call arguments, left to right: a returned argument value is recorded and the next argument
    is evaluated; nothing is re-evaluated -/
theorem args_left_to_right (n : Name) (done : List Val) (nxt : Op) (rest : List Op) (vm : Nat)
    (v : Val) (k : List Frame) (w : World) :
    resume (.argsK n done (nxt :: rest) vm) v k w =
      { ctl := .ev nxt vm, k := .argsK n (v :: done) rest vm :: k, w := w } := rfl

/-- the callee is looked up and called only after the last argument, with the arguments in
    source order -/
theorem call_after_last_arg (n : Name) (done : List Val) (vm : Nat) (v : Val) (k : List Frame) (w : World) :
    resume (.argsK n done [] vm) v k w = doCall n (v :: done).reverse vm k w := rfl

/-- dict literal parts k₁, v₁, k₂, v₂, … in source order -/
theorem dict_parts_in_order (done : List Val) (nxt : Op) (rest : List Op) (vm : Nat)
    (v : Val) (k : List Frame) (w : World) :
    resume (.dictK done (nxt :: rest) vm) v k w =
      { ctl := .ev nxt vm, k := .dictK (v :: done) rest vm :: k, w := w } := rfl

/-- slice bounds start, stop, step in order -/
theorem slice_bounds_in_order (a b c : Op) (vm : Nat) (k : List Frame) (w : World) :
    enter (.slice a b c) vm k w = { ctl := .ev a vm, k := .sliceK [] [b, c] vm :: k, w := w } := rfl

/-- `safe_cast(bound.eval(state), int)` of `SliceOp.eval` is applied to each bound as soon as it is a value … -/
theorem slice_bound_next {done : List (Option Int)} {x : Option Int} {nxt : Op} {rest : List Op} {vmi : Nat} {v : Val}
    (hc : safeCastInt v = .ok x) (k : List Frame) (w : World) :
    resume (.sliceK done (nxt :: rest) vmi) v k w =
      { ctl := .ev nxt vmi, k := .sliceK (x :: done) rest vmi :: k, w := w } := by
  unfold resume; simp only [hc]

/-- … and a bound that `int` rejects raises at once, the later bounds unevaluated -/
theorem slice_bound_rejected {done : List (Option Int)} {todo : List Op} {vmi : Nat} {v : Val} {e : PyErr}
    (hc : safeCastInt v = .error e) (k : List Frame) (w : World) :
    resume (.sliceK done todo vmi) v k w = mkRaise e k w := by
  unfold resume; simp only [hc]

/-- list elements / call arguments start with the first one -/
theorem call_first_arg_first (n : Name) (a : Op) (rest : List Op) (vm : Nat) (k : List Frame) (w : World) :
    enter (.call n (a :: rest)) vm k w = { ctl := .ev a vm, k := .argsK n [] rest vm :: k, w := w } := rfl

/-- if an operand raises, the pending operands stored in the frame are discarded unevaluated:
    unwinding a non-catching, non-scope frame just drops it -/
theorem raise_skips_pending_args (n : Name) (done : List Val) (todo : List Op) (vm : Nat)
    (e : PyErr) (k : List Frame) (w : World) :
    unwind (.argsK n done todo vm) e k w = mkRaise e k w := rfl

theorem raise_skips_rhs (bk : BinK) (b : Op) (vm : Nat) (e : PyErr) (k : List Frame) (w : World) :
    unwind (.binL bk b vm) e k w = mkRaise e k w := rfl

/-! With the frame lemma (`Sq.run_app`) the statements above lift to whole sub-evaluations: every big-step theorem
below is `operand_then_frame` chained with `run_trans` and the equation of `resume` for the frame. -/

def EvalsTo (B : List Nat) (op : Op) (vmi : Nat) (w : World) (n : Nat) (v : Val) (w' : World) : Prop :=
  run n { ctl := .ev op vmi, k := [], w := w, budgets := B } = { ctl := .ret v, k := [], w := w', budgets := B } ∧
  ∀ i, i < n → ¬ Underflow (run i { ctl := .ev op vmi, k := [], w := w, budgets := B }).core

def RaisesIn (B : List Nat) (op : Op) (vmi : Nat) (w : World) (n : Nat) (e : PyErr) (w' : World) : Prop :=
  run n { ctl := .ev op vmi, k := [], w := w, budgets := B } = { ctl := .raise e, k := [], w := w', budgets := B } ∧
  ∀ i, i < n → ¬ Underflow (run i { ctl := .ev op vmi, k := [], w := w, budgets := B }).core

/-- **evaluation in context**: the pending frames `k0` neither influence a sub-evaluation nor are touched by it -/
theorem eval_in_context {B op vmi w n v w'} (h : EvalsTo B op vmi w n v w') (k0 : List Frame) :
    run n { ctl := .ev op vmi, k := k0, w := w, budgets := B } = { ctl := .ret v, k := k0, w := w', budgets := B } :=
  run_app_eq k0 h.1 h.2

theorem raise_in_context {B op vmi w n e w'} (h : RaisesIn B op vmi w n e w') (k0 : List Frame) :
    run n { ctl := .ev op vmi, k := k0, w := w, budgets := B } = { ctl := .raise e, k := k0, w := w', budgets := B } :=
  run_app_eq k0 h.1 h.2

/-- **any pending operation waits for its operand**: whatever frame `fr` is waiting (a unary operator, an
    assignment or compound assignment, a slice bound, a pending argument list …), the operand beneath it is evaluated
    completely — its own `n` steps, exactly as if alone — and exactly once, and only then is the frame resumed,
    with the operand's value and in the world the operand left -/
theorem operand_then_frame (fr : Frame) {B a vmi w n v w1} (ha : EvalsTo B a vmi w n v w1) (k : List Frame) :
    run (n + 1) { ctl := .ev a vmi, k := fr :: k, w := w, budgets := B } = (resume fr v k w1).withBudgets B := by
  rw [run_add, eval_in_context ha]
  rfl

/-- … and if the operand raises, the frame is unwound instead: its operation is never applied -/
theorem operand_raises_then_unwind (fr : Frame) {B a vmi w n e w1} (ha : RaisesIn B a vmi w n e w1) (k : List Frame) :
    run (n + 1) { ctl := .ev a vmi, k := fr :: k, w := w, budgets := B } = (unwind fr e k w1).withBudgets B := by
  rw [run_add, raise_in_context ha]
  rfl

/-- **strict binary operator, big step**: once `a` is being evaluated with `b` pending, the machine evaluates `a`
    completely (its `na` steps, exactly as if alone), then `b` completely (its `nb` steps, in the world `a` left),
    then applies the operator ONCE to the two values — for operands of any size, under any pending context `k` -/
theorem strict_bin_big_step (bk : BinK) (h1 : bk ≠ .and) (h2 : bk ≠ .or) {B a b vmi w na va wa nb vb wb}
    (ha : EvalsTo B a vmi w na va wa) (hb : EvalsTo B b vmi wa nb vb wb) (k : List Frame) :
    run (na + 1 + nb + 1) { ctl := .ev a vmi, k := .binL bk b vmi :: k, w := w, budgets := B } =
      (match applyBin wb bk va vb with
       | .ok (r, w') => mkRet r k w'
       | .error e => mkRaise e k wb).withBudgets B := by
  rw [Nat.add_assoc (na + 1)]
  refine run_trans (operand_then_frame _ ha k) ?_
  rw [strict_bin_left_then_right bk b vmi va k wa h1 h2]
  refine (operand_then_frame (.binR bk va) hb k).trans ?_
  unfold resume
  simp only []
  cases applyBin wb bk va vb <;> rfl

/-- `a and b`, `a` falsy: after `a`'s own steps plus one, the result is `a`'s value; `b` is never entered -/
theorem and_big_step_lazy {B a b vmi w na va wa} (ha : EvalsTo B a vmi w na va wa)
    (hf : truthy wa.heap va = false) (k : List Frame) :
    run (na + 1) { ctl := .ev a vmi, k := .binL .and b vmi :: k, w := w, budgets := B } =
      (mkRet va k wa).withBudgets B := by
  rw [operand_then_frame _ ha, and_lazy b vmi va k wa hf]

/-- `a or b`, `a` truthy: likewise -/
theorem or_big_step_lazy {B a b vmi w na va wa} (ha : EvalsTo B a vmi w na va wa)
    (hf : truthy wa.heap va = true) (k : List Frame) :
    run (na + 1) { ctl := .ev a vmi, k := .binL .or b vmi :: k, w := w, budgets := B } =
      (mkRet va k wa).withBudgets B := by
  rw [operand_then_frame _ ha, or_lazy b vmi va k wa hf]

/-- `a and b`, `a` truthy: then `b` is evaluated in the world `a` left and ITS value is the result -/
theorem and_big_step_rhs {B a b vmi w na va wa nb vb wb} (ha : EvalsTo B a vmi w na va wa)
    (ht : truthy wa.heap va = true) (hb : EvalsTo B b vmi wa nb vb wb) (k : List Frame) :
    run (na + 1 + nb) { ctl := .ev a vmi, k := .binL .and b vmi :: k, w := w, budgets := B } =
      { ctl := .ret vb, k := k, w := wb, budgets := B } := by
  refine run_trans (operand_then_frame _ ha k) ?_
  rw [and_takes_rhs b vmi va k wa ht]
  exact eval_in_context hb k

theorem or_big_step_rhs {B a b vmi w na va wa nb vb wb} (ha : EvalsTo B a vmi w na va wa)
    (ht : truthy wa.heap va = false) (hb : EvalsTo B b vmi wa nb vb wb) (k : List Frame) :
    run (na + 1 + nb) { ctl := .ev a vmi, k := .binL .or b vmi :: k, w := w, budgets := B } =
      { ctl := .ret vb, k := k, w := wb, budgets := B } := by
  refine run_trans (operand_then_frame _ ha k) ?_
  rw [or_takes_rhs b vmi va k wa ht]
  exact eval_in_context hb k

/-- `x if c else y`: the condition completely, then exactly the chosen branch, in the world the condition left;
    the branch not chosen contributes no step at all (the step count is `nc + 1 + nx`) -/
theorem ifexpr_big_step {B c x y vmi w nc vc wc nx vx wx} (hc : EvalsTo B c vmi w nc vc wc)
    (hx : EvalsTo B (if truthy wc.heap vc then x else y) vmi wc nx vx wx) (k : List Frame) :
    run (nc + 1 + nx) { ctl := .ev c vmi, k := .ifK x y vmi :: k, w := w, budgets := B } =
      { ctl := .ret vx, k := k, w := wx, budgets := B } := by
  refine run_trans (operand_then_frame _ hc k) ?_
  rw [ifexpr_one_branch]
  exact eval_in_context hx k

/-- an operand that raises aborts the strict operator before the right operand is entered: after `a`'s own steps
    plus one the exception is propagating out of the operator's frame, whatever `b` is -/
theorem strict_bin_left_raises (bk : BinK) {B a b vmi w na e wa} (ha : RaisesIn B a vmi w na e wa) (k : List Frame) :
    run (na + 1) { ctl := .ev a vmi, k := .binL bk b vmi :: k, w := w, budgets := B } =
      (mkRaise e k wa).withBudgets B := by
  rw [operand_raises_then_unwind _ ha, raise_skips_rhs bk b vmi e k wa]

/-- the expressions `ops`, evaluated one after the other (each alone, each in the world its predecessor left),
    return the values `vs`; `n` is the total number of steps including one hand-over step after each -/
inductive EvalsSeq (B : List Nat) (vmi : Nat) : World → List Op → Nat → List Val → World → Prop
  | nil (w : World) : EvalsSeq B vmi w [] 0 [] w
  | cons {w a n v w1 rest m vs w2} : EvalsTo B a vmi w n v w1 → EvalsSeq B vmi w1 rest m vs w2 →
      EvalsSeq B vmi w (a :: rest) (n + 1 + m) (v :: vs) w2

/-- **a list of expressions under a collecting frame** (call arguments, dict parts, the lines of a program): they are
    evaluated in source order, each once and completely before the next is entered, and the frame's final action gets
    their values in source order -/
theorem seq_big_step {B vmi} {F : List Val → List Op → Frame} {fin : List Val → List Frame → World → Core}
    (hnext : ∀ done nxt rest v k w, resume (F done (nxt :: rest)) v k w =
      { ctl := .ev nxt vmi, k := F (v :: done) rest :: k, w := w })
    (hlast : ∀ done v k w, resume (F done []) v k w = fin (v :: done).reverse k w)
    (k : List Frame) {rest : List Op} {wa m vs w2} (hs : EvalsSeq B vmi wa rest m vs w2) :
    ∀ (done : List Val) {a w n v}, EvalsTo B a vmi w n v wa →
    run (n + 1 + m) { ctl := .ev a vmi, k := F done rest :: k, w := w, budgets := B } =
      (fin (done.reverse ++ v :: vs) k w2).withBudgets B := by
  induction hs with
  | nil _ =>
    intro done a w n v ha
    rw [Nat.add_zero, operand_then_frame _ ha, hlast, List.reverse_cons]
  | cons hb _ ih =>
    intro done a w n v ha
    refine run_trans (operand_then_frame _ ha k) ?_
    rw [hnext]
    refine (ih (v :: done) hb).trans ?_
    rw [List.reverse_cons, List.append_assoc]; rfl

/-- **call arguments, big step**: with any number of arguments of any size, the machine evaluates them one after
    the other in source order, each exactly once and completely before the next is entered, and only then looks
    the callee up and calls it with the values in source order -/
theorem args_big_step (nm : Name) {B vmi} (k : List Frame) (rest : List Op) :
    ∀ (done : List Val) {a w n v w1 m vs w2}, EvalsTo B a vmi w n v w1 → EvalsSeq B vmi w1 rest m vs w2 →
    run (n + 1 + m) { ctl := .ev a vmi, k := .argsK nm done rest vmi :: k, w := w, budgets := B } =
      (doCall nm (done.reverse ++ v :: vs) vmi k w2).withBudgets B :=
  fun done _ _ _ _ _ _ _ _ ha hs =>
    seq_big_step (F := fun d t => .argsK nm d t vmi) (fin := fun vs k w => doCall nm vs vmi k w)
      (fun _ _ _ _ _ _ => rfl) (fun _ _ _ _ => rfl) k hs done ha

/-- a whole call expression: `f(a, rest…)` -/
theorem call_big_step (nm : Name) {B vmi a rest w n v w1 m vs w2} (k : List Frame)
    (ha : EvalsTo B a vmi w n v w1) (hs : EvalsSeq B vmi w1 rest m vs w2) :
    run (n + 1 + m) ((enter (.call nm (a :: rest)) vmi k w).withBudgets B) =
      (doCall nm (v :: vs) vmi k w2).withBudgets B :=
  args_big_step nm k rest [] ha hs

/-- what a dict literal does once all its parts are values: build the dict (casting keys), allocate it -/
def dictFinish (parts : List Val) (k : List Frame) (w : World) : Core :=
  match buildDict w.heap parts [] with
  | .error e => mkRaise e k w
  | .ok kvs => mkRet (.ref (w.heap.alloc (.dict kvs)).2) k { w with heap := (w.heap.alloc (.dict kvs)).1 }

theorem dict_after_last_part (done : List Val) (vmi : Nat) (v : Val) (k : List Frame) (w : World) :
    resume (.dictK done [] vmi) v k w = dictFinish (v :: done).reverse k w := by
  unfold dictFinish resume
  simp only []
  cases buildDict w.heap (v :: done).reverse [] <;> rfl

/-- **dict literal, big step**: the parts k₁, v₁, k₂, v₂, … are evaluated in source order, each once and completely
    before the next, and the dict is built from the values in source order afterwards -/
theorem dict_big_step {B vmi} (k : List Frame) (rest : List Op) :
    ∀ (done : List Val) {a w n v w1 m vs w2}, EvalsTo B a vmi w n v w1 → EvalsSeq B vmi w1 rest m vs w2 →
    run (n + 1 + m) { ctl := .ev a vmi, k := .dictK done rest vmi :: k, w := w, budgets := B } =
      (dictFinish (done.reverse ++ v :: vs) k w2).withBudgets B :=
  fun done _ _ _ _ _ _ _ _ ha hs =>
    seq_big_step (F := fun d t => .dictK d t vmi) (fin := dictFinish)
      (fun _ _ _ _ _ _ => rfl) (fun d v k w => dict_after_last_part d vmi v k w) k hs done ha

/-- **three-part slice, big step**: the bounds `a : b : c` are evaluated in source order, each completely and exactly once,
    each cast to an integer (or None) as soon as it is a value, and the slice object is built from the three casts -/
theorem slice_big_step {B a b c vmi w na va wa nb vb wb nc vc wc xa xb xc}
    (ha : EvalsTo B a vmi w na va wa) (hb : EvalsTo B b vmi wa nb vb wb) (hc : EvalsTo B c vmi wb nc vc wc)
    (ca : safeCastInt va = .ok xa) (cb : safeCastInt vb = .ok xb) (cc : safeCastInt vc = .ok xc) (k : List Frame) :
    run (na + 1 + (nb + 1) + (nc + 1)) ((enter (.slice a b c) vmi k w).withBudgets B) =
      (mkRet (.slice xa xb xc) k wc).withBudgets B := by
  refine run_trans (c1 := (resume (.sliceK [xa] [c] vmi) vb k wb).withBudgets B)
    (run_trans (operand_then_frame (.sliceK [] [b, c] vmi) ha k) ?_) ?_
  · rw [slice_bound_next ca]
    exact operand_then_frame (.sliceK [xa] [c] vmi) hb k
  · rw [slice_bound_next cb]
    refine (operand_then_frame (.sliceK [xb, xa] [] vmi) hc k).trans ?_
    unfold resume
    simp only [cc]
    rfl

/-- … and a bound that is not an integer stops the evaluation there: the later bounds are never entered -/
theorem slice_first_bound_rejected {B a b c vmi w na va wa e}
    (ha : EvalsTo B a vmi w na va wa) (ca : safeCastInt va = .error e) (k : List Frame) :
    run (na + 1) ((enter (.slice a b c) vmi k w).withBudgets B) = (mkRaise e k wa).withBudgets B := by
  refine (operand_then_frame (.sliceK [] [b, c] vmi) ha k).trans ?_
  rw [slice_bound_rejected ca]

/-- … and if a bound raises, the later bounds are never entered and no slice is built -/
theorem slice_first_bound_raises {B a b c vmi w na e wa}
    (ha : RaisesIn B a vmi w na e wa) (k : List Frame) :
    run (na + 1) ((enter (.slice a b c) vmi k w).withBudgets B) = (unwind (.sliceK [] [b, c] vmi) e k wa).withBudgets B :=
  operand_raises_then_unwind _ ha k

/-- the function value `g`, applied to `args` alone from world `w`, returns `v` in world `w'` after `n` steps
    (`fuel` is the trampoline bound of `callVal`; the callbacks of map / filter / reduce / sorted run with `callFuel - 1`) -/
def CallsTo (B : List Nat) (fuel : Nat) (g : Val) (args : List Val) (w : World) (n : Nat) (v : Val) (w' : World) : Prop :=
  run n ((callVal fuel g args [] w).withBudgets B) = { ctl := .ret v, k := [], w := w', budgets := B } ∧
  ∀ i, i < n → ¬ Underflow (run i ((callVal fuel g args [] w).withBudgets B)).core

theorem call_in_context {B fuel g args w n v w'} (h : CallsTo B fuel g args w n v w') (k0 : List Frame) :
    run n ((callVal fuel g args k0 w).withBudgets B) = { ctl := .ret v, k := k0, w := w', budgets := B } := by
  rw [((call_local fuel).1 g args w).framed k0]
  exact run_app_eq k0 h.1 h.2

/-- the accumulator after a callback returned `v` for element `cur` (what `resume (.iterK …)` computes) -/
def accAfter (kind : IterKind) (h : Heap) (v cur : Val) (acc : List Val) : List Val :=
  match kind with
  | .map => v :: acc
  | .filter => if truthy h v then cur :: acc else acc
  | .reduce => [v]
  | .sortKeys _ _ _ => v :: acc

def cbArgs (kind : IterKind) (acc item : List Val) : List Val :=
  match kind with
  | .reduce => acc.headD .none :: item
  | _ => item

/-- the callbacks of one higher-order call, one after the other: the next element is fetched (`nextItem`: from the live
    list, or from the snapshot) in the world the previous callback left, `g` is applied to it alone, the accumulator is
    updated; `n` counts all steps including one hand-over step after each callback -/
inductive IterRuns (B : List Nat) (kind : IterKind) (g : Val) : World → IterSrc → List Val → Nat → IterSrc → List Val → World → Prop
  | done {w src acc} : nextItem w.heap src = none → IterRuns B kind g w src acc 0 src acc w
  | next {w src acc item src' n v w1 m srcE accE w2} : nextItem w.heap src = some (item, src') →
      CallsTo B (callFuel - 1) g (cbArgs kind acc item) w n v w1 →
      IterRuns B kind g w1 src' (accAfter kind w1.heap v (item.headD .none) acc) m srcE accE w2 →
      IterRuns B kind g w src acc (n + 1 + m) srcE accE w2

/-- **callbacks of map / filter / reduce / sorted, big step**: the callback is applied to the elements in iteration
    order, each application completely (its own `n` steps, exactly as if alone) and exactly once before the next
    element is fetched, and only after the last one is the result built from the accumulated values -/
theorem hof_big_step {B kind g} (k : List Frame) {w src acc n srcE accE w2}
    (h : IterRuns B kind g w src acc n srcE accE w2) :
    run n ((iterNext callFuel kind g src acc k w).withBudgets B) =
      (iterNext callFuel kind g srcE accE k w2).withBudgets B ∧ nextItem w2.heap srcE = none := by
  induction h with
  | done hn => exact ⟨rfl, hn⟩
  | @next w src acc item src' n v w1 m srcE accE w2 hn hc _ ih =>
    refine ⟨?_, ih.2⟩
    have e0 : iterNext callFuel kind g src acc k w =
        callVal (callFuel - 1) g (cbArgs kind acc item) (.iterK kind g src' (item.headD .none) acc :: k) w :=
      iterNext_of_some (by decide) hn k
    have e1 : run 1 { ctl := .ret v, k := .iterK kind g src' (item.headD .none) acc :: k, w := w1, budgets := B } =
        (iterNext callFuel kind g src' (accAfter kind w1.heap v (item.headD .none) acc) k w1).withBudgets B := by
      show step _ = _
      cases kind <;> rfl
    rw [run_add (n + 1) m, run_add n 1, e0, call_in_context hc, e1, ih.1]

/-- what happens after the last callback of `map` / `filter`: the accumulated values, in iteration order, become a new list -/
theorem map_filter_finish (kind : IterKind) (hk : kind = .map ∨ kind = .filter) (g : Val) (src : IterSrc) (acc : List Val)
    (k : List Frame) (w : World) (hn : nextItem w.heap src = none) :
    iterNext callFuel kind g src acc k w =
      mkRet (.ref (w.heap.alloc (.list acc.reverse)).2) k { w with heap := (w.heap.alloc (.list acc.reverse)).1 } := by
  rw [iterNext_of_none (by decide) hn]
  rcases hk with rfl | rfl <;> rfl

/-- … of `reduce`: the last callback's value is the result -/
theorem reduce_finish (g : Val) (src : IterSrc) (acc : List Val) (k : List Frame) (w : World)
    (hn : nextItem w.heap src = none) : iterNext callFuel .reduce g src acc k w = mkRet (acc.headD .none) k w :=
  iterNext_of_none (by decide) hn g acc k

def w1 : World := { heap := #[.dict []], vms := [{ scopes := [0], ops := 0 }], log := [], rng := 0, rx := [], probes := [] }

/-- non-vacuity: `None` evaluates alone in one step (charge + enter) when the budget allows -/
example : ∃ w', EvalsTo [100] (.value .none) 0 w1 1 .none w' := by
  refine ⟨(run 1 { ctl := .ev (.value .none) 0, k := [], w := w1, budgets := [100] }).w, rfl, ?_⟩
  intro i hi
  obtain rfl : i = 0 := by omega
  exact ev_not_underflow _ _ _ _

/-- non-vacuity: `map` of the builtin `str` over a one-element snapshot -/
example : ∃ n srcE accE w2, IterRuns [100] .map (.builtin "str") w1 (.snap [[.str ['a']]]) [] n srcE accE w2 :=
  ⟨_, _, _, _, IterRuns.next (n := 0) (v := .str ['a']) (w1 := w1) rfl ⟨by rfl, fun i hi => by omega⟩ (IterRuns.done rfl)⟩
end SqProps.C09
