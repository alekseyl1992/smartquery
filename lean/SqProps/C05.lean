/-
  C05 — regular-expression builtins cannot hang the host (PARTIAL: the logic part).
  What a theorem can carry: every engine call made by `match`, `match_groups`, `match_all` carries
  the timeout, the timeout is the 50 ms constant, and the builtin itself does no work that depends
  on the subject beyond handing it to the engine (`bRegex` consumes exactly one engine answer).
  The wall-clock behaviour of the third-party engine (whether it honours the timeout; pattern
  *compilation*, which the timeout does not cover: finding D14) is measured by the monitor.
-/
import SqLemmas.BuiltinTable
namespace SqProps.C05
open Sq

theorem rxGo_timeout (name : String) (s p fl : Val) (req : RxReq)
    (h : rxGo name s p fl = .ok req) : req.timeout = some regexTimeoutMicros := by
  unfold rxGo at h
  split at h
  · cases h
  · split at h
    · simp only [Except.ok.injEq] at h
      rw [← h]
    · cases h

/-- every engine request produced by a regex builtin carries `timeout = 50000 µs` -/
theorem regex_timeout_passed (name : String) (args : List Val) (req : RxReq)
    (h : rxRequest name args = .ok req) : req.timeout = some regexTimeoutMicros := by
  unfold rxRequest at h
  split at h
  · exact rxGo_timeout _ _ _ _ _ h
  · exact rxGo_timeout _ _ _ _ _ h
  · cases h

/-- the three builtins reach the engine only through `rxRequest` (so the previous theorem covers
    every call): if `rxRequest` fails, no engine answer is consumed -/
theorem regex_no_request_no_call (name : String) (args : List Val) (s : BState) (e : PyErr)
    (h : rxRequest name args = .error e) : bRegex name args s = .error e := by
  simp [bRegex, h]

theorem timeout_is_small_and_positive : 0 < regexTimeoutMicros ∧ regexTimeoutMicros ≤ 50000 := by decide

/-- one successful builtin call consumes exactly one engine answer -/
theorem regex_one_engine_call (name : String) (args : List Val) (s : BState) (v : Val) (s' : BState)
    (h : bRegex name args s = .ok (v, s')) : ∃ ans, s.rx = ans :: s'.rx := by
  unfold bRegex at h
  split at h
  · cases h
  · split at h
    · cases h
    · rename_i ans rest hrx
      refine ⟨ans, ?_⟩
      rw [hrx]
      -- every `.ok` arm leaves `rx := rest`
      split at h <;> simp [ret, allocList, U, Heap.alloc] at h <;> simp [← h.2]

/-- the dispatch table routes the three names to `bRegex` -/
theorem match_dispatch (args : List Val) (s : BState) (hg : typeObjectGuard "match" args = false) :
    callPure "match" args s = bRegex "match" args s :=
  callPure_eq b_match hg

example : (rxRequest "match" [.str ['a'], .str ['a']]).toOption.map (·.timeout) = some (some 50000) := by decide

end SqProps.C05
