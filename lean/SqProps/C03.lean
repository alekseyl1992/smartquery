/-
  C03 — the 10000-element cap on lists and dicts.
  Proved here: every element-adding operation on a container that already holds 10000 elements
  fails with a ParserError and leaves the container unchanged (the "in particular" clause at full
  strength); below the cap `push` grows the list by exactly one.  The global bound is NOT a
  theorem: list concatenation (`+`, `+=`) is unchecked in the code — `concat_doubles` is the
  machine-checked counterexample (finding D10), replayed on the implementation by the monitor.
  Then the converse on success: a `push` / `insert` that returns had room, and leaves no object of the heap beyond
  `max 10000 (its length before)` (`push_insert_keep_cap`).  Last, a slice is no way around the cap: a slice of a list, a
  string or a tuple is no longer than its source.
-/
import Sq.Machine
import SqLemmas.SliceLemmas
import SqLemmas.ListRefine
import SqLemmas.BuiltinTable
namespace SqProps.C03
open Sq

/-- an error result carries no state: the caller keeps the old heap (`ofBR` passes `w` through) -/
theorem error_keeps_world (e : PyErr) (k : List Frame) (w : World) :
    (ofBR (.error e) k w).w = w := rfl

theorem check_at_cap_list (h : Heap) (a : Nat) (xs : List Val)
    (hg : h.get? a = some (.list xs)) (hl : xs.length ≥ maxArraySize) :
    checkArraySize h (.ref a) = .error (.parser "Array size overflow") := by
  rw [checkArraySize_list hg, if_pos hl]

theorem check_at_cap_dict (h : Heap) (a : Nat) (kvs : List (Val × Val))
    (hg : h.get? a = some (.dict kvs)) (hl : kvs.length ≥ maxArraySize) :
    checkArraySize h (.ref a) = .error (.parser "Array size overflow") := by
  simp [checkArraySize, pyLen, hg, hl]

/-- `push` on a full list: ParserError, and (since the result is an error) no new state -/
theorem push_at_cap (s : BState) (a : Nat) (xs : List Val) (v : Val)
    (hg : s.heap.get? a = some (.list xs)) (hl : xs.length ≥ maxArraySize) :
    callPure "push" [.ref a, v] s = .error (.parser "Array size overflow") := by
  rw [callPure_eq b_push rfl, b_push_list hg, if_pos hl]

theorem insert_at_cap (s : BState) (a : Nat) (xs : List Val) (i v : Val)
    (hg : s.heap.get? a = some (.list xs)) (hl : xs.length ≥ maxArraySize) :
    callPure "insert" [.ref a, i, v] s = .error (.parser "Array size overflow") := by
  rw [callPure_eq b_insert rfl, b_insert_list hg, if_pos hl]

/-- index assignment on a full list or dict (even overwriting an existing element) -/
theorem setitem_at_cap (s : BState) (a : Nat) (k v : Val)
    (hc : checkArraySize s.heap (.ref a) = .error (.parser "Array size overflow")) :
    callPure "__setitem__" [.ref a, k, v] s = .error (.parser "Array size overflow") := by
  rw [callPure_eq b_setitem rfl, b_setitem, bSetItem, hc]

theorem setitem_with_op_at_cap (s : BState) (a : Nat) (k o v : Val)
    (hc : checkArraySize s.heap (.ref a) = .error (.parser "Array size overflow")) :
    callPure "__setitem_with_op__" [.ref a, k, o, v] s = .error (.parser "Array size overflow") := by
  rw [callPure_eq b_setitem_with_op rfl]
  simp only [b_setitem_with_op, bSetItemWithOp, hc]

/-- below the cap, `push` appends exactly one element to that list and touches nothing else -/
theorem push_grows_by_one (s : BState) (a : Nat) (xs : List Val) (v : Val)
    (hg : s.heap.get? a = some (.list xs)) (hl : xs.length < maxArraySize) :
    callPure "push" [.ref a, v] s = .ok (.none, { s with heap := s.heap.set a (.list (xs ++ [v])) }) := by
  rw [callPure_eq b_push rfl, b_push_list hg, if_neg (Nat.not_le.mpr hl)]
  rfl

/-- D10 (finding): list concatenation is not size-checked — `l + l` has twice the length, for
    every length (parametric, not a test on one list). -/
theorem concat_doubles (h : Heap) (a : Nat) (xs : List Val) (hg : h.get? a = some (.list xs)) :
    ∃ h' b, pyAdd h (.ref a) (.ref a) = .ok (.ref b, h') ∧ h'.get? b = some (.list (xs ++ xs)) := by
  refine ⟨h.push (.list (xs ++ xs)), h.size, ?_, ?_⟩
  · simp [pyAdd, toInt?, toDec?, hg, Heap.alloc]
  · simp [Heap.get?]

/-- non-vacuity: full lists exist, and any list can sit in a heap at an address, so the
    hypotheses of `push_at_cap` are satisfiable -/
example : ∃ xs : List Val, xs.length ≥ maxArraySize :=
  ⟨List.replicate maxArraySize .none, by rw [List.length_replicate]; exact Nat.le_refl _⟩

example (xs : List Val) : ∃ (s : BState) (a : Nat), s.heap.get? a = some (.list xs) :=
  ⟨{ heap := #[.list xs], rng := 0, rx := [] }, 0, by simp [Heap.get?]⟩

/-- number of elements of a heap object (0 for a missing one) -/
def objLen : Option HObj → Nat
  | some (.list xs) => xs.length
  | some (.dict kvs) => kvs.length
  | none => 0

/-- **a successful `push` had room**: whatever the arguments, if `push` returns, its first argument was a list object with
    fewer than 10000 elements, which now has exactly one more — the pushed value, at the end — and the state is otherwise
    the same -/
theorem push_success_shape (args : List Val) (s : BState) (v : Val) (s' : BState) (h : b_push args s = .ok (v, s')) :
    ∃ a xs x, args = [.ref a, x] ∧ s.heap.get? a = some (.list xs) ∧ xs.length < maxArraySize ∧
      s' = { s with heap := s.heap.set a (.list (xs ++ [x])) } := by
  obtain ⟨a, x, xs, rfl, hg, hl, -, rfl⟩ := b_push_inv h
  exact ⟨a, xs, x, rfl, hg, hl, rfl⟩

/-- **a successful `insert` had room**: the list had fewer than 10000 elements and now holds the same elements with the new
    one somewhere in between — exactly one more -/
theorem insert_success_shape (args : List Val) (s : BState) (v : Val) (s' : BState) (h : b_insert args s = .ok (v, s')) :
    ∃ a xs x j, s.heap.get? a = some (.list xs) ∧ xs.length < maxArraySize ∧
      s' = { s with heap := s.heap.set a (.list (xs.take j ++ x :: xs.drop j)) } := by
  obtain ⟨a, i, x, xs, j, rfl, hg, hl, -, rfl⟩ := b_insert_inv h
  exact ⟨a, xs, x, j, hg, hl, rfl⟩

/-- replacing an object by one within the cap takes no object beyond `max 10000 (its length before)` -/
theorem objLen_set_le (h : Heap) (a : Nat) (o : HObj) (ho : objLen (some o) ≤ maxArraySize) (b : Nat) :
    objLen ((h.set a o).get? b) ≤ max maxArraySize (objLen (h.get? b)) := by
  rw [get?_set]
  split <;> omega

/-- **`push` and `insert` never take any object beyond the cap**: after a successful call every object of the heap has at most
    `max 10000 (its length before)` elements — in fact the receiver has one more (at most 10000) and every other object is
    untouched -/
theorem push_insert_keep_cap (args : List Val) (s : BState) (v : Val) (s' : BState)
    (h : b_push args s = .ok (v, s') ∨ b_insert args s = .ok (v, s')) (b : Nat) :
    objLen (s'.heap.get? b) ≤ max maxArraySize (objLen (s.heap.get? b)) := by
  rcases h with h | h
  · obtain ⟨a, xs, x, _, -, hlt, rfl⟩ := push_success_shape args s v s' h
    exact objLen_set_le _ _ _ (by simp only [objLen, List.length_append, List.length_singleton]; omega) b
  · obtain ⟨a, xs, x, j, -, hlt, rfl⟩ := insert_success_shape args s v s' h
    refine objLen_set_le _ _ _ ?_ b
    simp only [objLen, List.length_append, List.length_cons, List.length_take, List.length_drop]
    omega

/-- **a slice is no way around the cap**: whatever the bounds and the step (positive, negative, huge, absent), the positions
    `slice.indices` selects are at most as many as the sequence has, so the list a slice read builds is never longer than the
    list it was read from -/
theorem slice_selects_at_most_length (xs : List Val) (a b c : Option Int) (idx : List Nat)
    (h : sliceIndices xs.length a b c = .ok idx) : idx.length ≤ xs.length ∧ (pick xs idx).length ≤ xs.length :=
  ⟨sliceIndices_length_le _ _ _ _ _ h, pick_slice_length_le xs a b c idx h⟩

/-- through the subscript operator: a successful slice read of a list object returns a new list object of at most the
    source's length -/
theorem slice_read_no_longer_than_source (s : BState) (a : Nat) (xs : List Val) (lo hi st : Option Int) (r : Val × BState)
    (hg : s.heap.get? a = some (.list xs)) (hr : pyGetItem s (.ref a) (.slice lo hi st) = .ok r) :
    ∃ ys, r = allocList s ys ∧ ys.length ≤ xs.length := by
  rw [pyGetItem_list_slice hg] at hr
  exact seq_slice_le xs _ lo hi st r hr

/-- the same for a string and for a host tuple: a successful slice read returns a string / tuple of at most the source's
    length and allocates nothing (the state is returned as it was) -/
theorem string_slice_no_longer_than_source (s : BState) (cs : List Char) (lo hi st : Option Int) (r : Val × BState)
    (hr : pyGetItem s (.str cs) (.slice lo hi st) = .ok r) :
    ∃ ys, r = (.str ys, s) ∧ ys.length ≤ cs.length :=
  seq_slice_le cs _ lo hi st r hr

theorem tuple_slice_no_longer_than_source (s : BState) (vs : List Val) (lo hi st : Option Int) (r : Val × BState)
    (hr : pyGetItem s (.tuple vs) (.slice lo hi st) = .ok r) :
    ∃ ys, r = (.tuple ys, s) ∧ ys.length ≤ vs.length :=
  seq_slice_le vs _ lo hi st r hr

/-- non-vacuity: `[1, 2, 3][::-2]` selects two positions, `[1, 2, 3][-100:100]` three -/
example : (sliceIndices 3 none none (some (-2))).toOption.map List.length = some 2 ∧
    (sliceIndices 3 (some (-100)) (some 100) none).toOption.map List.length = some 3 := by decide +kernel

end SqProps.C03
