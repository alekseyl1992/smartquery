/-
  C12 — [B] `x = e`, end to end (`assign_binds_same_content`): afterwards every lookup of the name finds, in the top scope, a
  value that reads exactly like the value of `e` did and lives in new objects only.
-/
import SqProps.C12
import SqProps.C10
import SqLemmas.DictRefine
import SqLemmas.DenoteRun
namespace SqProps.C12
open Sq Sq.Den

/-- **`x = e`, end to end**: when the assignment succeeds (`assignAct` returns None), the name is afterwards bound — in
    the top scope, found first by every lookup — to a value that reads exactly like the value of `e` did before (equal
    unfoldings at every depth) and shares no object with anything that existed before (`stored_copy_is_independent`) -/
theorem assign_binds_same_content (n : Name) (vmi : Nat) (v : Val) (w w' : World) (vm : VM) (a : Nat) (rest : List Nat)
    (hcl : Closed w.heap) (hk : KeysPlain w.heap) (hv : RefsLt w.heap.size v) (hvm : w.vm? vmi = some vm)
    (hsc : vm.scopes = a :: rest) (ha : a < w.heap.size)
    (h : assignAct n vmi v w = (.ret .none, w')) :
    ∃ v', lookupName w'.heap vm.scopes n = some v' ∧ RefsGe w.heap.size v' ∧
      ∀ k, unfoldT k w'.heap v' = unfoldT k w.heap v := by
  obtain ⟨v', h', vm', h'', hd, hvm', hwt, -, rfl⟩ := of_assignAct_ret h
  cases hvm.symm.trans hvm'
  obtain ⟨_, _, kvs, hc, hg, rfl⟩ := of_writeTop_eq_some hwt
  cases hsc.symm.trans hc
  obtain ⟨hfresh, hobjs, _⟩ := deepcopy'_fresh w.heap v v' h' hk hd
  refine ⟨v', ?_, hfresh, fun k => ?_⟩
  · -- the lookup finds the new binding in the top scope
    rw [hsc]
    apply SqProps.C10.lookup_innermost_first
    unfold scopeFind
    rw [get?_set_self (get_lt hg)]
    exact absMap_kvSet_self kvs n v'
  · -- the content: the write changed the (old) top scope only; the copy lives in new objects
    rw [unfold_new_only (fun x hx => get?_set_ne _ (by omega) _) hobjs k v' hfresh]
    exact (stored_copy_has_same_content w.heap v v' h' hcl hv hd k).1
end SqProps.C12
