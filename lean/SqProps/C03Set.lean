/-
  C03 — [B] the converse direction for index assignment: `c[k] = v` copies its operand first (new objects only,
  `deepcopy'_ext`) and then writes; if it returns, the container had room and is within the cap afterwards.
-/
import SqProps.C03
import SqLemmas.CopyLemmas
import SqLemmas.DictRefine
namespace SqProps.C03
open Sq SqProps.C13   -- C13 for `HeapExt`

theorem checkArraySize_ok {h : Heap} {a : Nat} (hc : checkArraySize h (.ref a) = .ok ()) :
    ∃ o, h.get? a = some o ∧ objLen (some o) < maxArraySize := by
  simp only [checkArraySize, pyLen] at hc
  cases hg : h.get? a with
  | none => rw [hg] at hc; cases hc
  | some o =>
    rw [hg] at hc
    cases o <;> (simp only at hc; split at hc; cases hc; exact ⟨_, rfl, by simp only [objLen]; omega⟩)

theorem pySetItem_ok {s s2 : BState} {a : Nat} {k v : Val} (h : pySetItem s (.ref a) k v = .ok s2) :
    ∃ o o', s.heap.get? a = some o ∧ s2 = { s with heap := s.heap.set a o' } ∧ objLen (some o') ≤ objLen (some o) + 1 := by
  obtain ⟨_, e, hs⟩ := pySetItem_inv h
  cases e
  rcases hs with ⟨xs, -, j, hg, -, -, rfl⟩ | ⟨kvs, kvs', hg, hd, rfl⟩
  · exact ⟨_, _, hg, rfl, by simp only [objLen, List.length_set]; omega⟩
  · exact ⟨_, _, hg, rfl, dictSet_length_le _ _ _ _ _ hd⟩

/-- what a successful `c[k] = v` does to the heap: the operand copy extends it (`HeapExt`: every existing object as it was),
    then the container object alone is replaced, by an object of at most 10000 elements; the container had fewer before -/
theorem setitem_heap_shape (s : BState) (a : Nat) (k v r : Val) (s' : BState)
    (h : bSetItem s (.ref a) k v = .ok (r, s')) :
    objLen (s.heap.get? a) < maxArraySize ∧ a < s.heap.size ∧
    ∃ h' o, HeapExt s.heap h' ∧ s'.heap = h'.set a o ∧ objLen (some o) ≤ maxArraySize := by
  obtain ⟨k', v', h', hc, -, hd, hp, -⟩ := bSetItem_inv h
  obtain ⟨o, hg, hlen⟩ := checkArraySize_ok hc
  have hlt : a < s.heap.size := get_lt hg
  have hx := deepcopy'_ext hd
  obtain ⟨o1, o', hg1, rfl, hle⟩ := pySetItem_ok hp
  -- the copy has left the container as the size check saw it
  obtain rfl : o1 = o := Option.some.inj (hg1.symm.trans ((hx.2 a hlt).trans hg))
  exact ⟨hg ▸ hlen, hlt, h', o', hx, rfl, by omega⟩

/-- **a successful index assignment had room**: if `c[k] = v` returns for a container object `a`, then `a` had fewer than
    10000 elements and has at most 10000 now (a list keeps its length, a dict gains at most one entry) -/
theorem setitem_success_within_cap (s : BState) (a : Nat) (k v r : Val) (s' : BState)
    (h : bSetItem s (.ref a) k v = .ok (r, s')) :
    objLen (s.heap.get? a) < maxArraySize ∧ objLen (s'.heap.get? a) ≤ maxArraySize := by
  obtain ⟨h1, hlt, h', o, hx, hs, ho⟩ := setitem_heap_shape s a k v r s' h
  refine ⟨h1, ?_⟩
  rw [hs, get?_set_self (Nat.lt_of_lt_of_le hlt hx.1)]
  exact ho

/-- … and it takes no object that existed before beyond `max 10000 (its length before)`: every other existing object is
    exactly as it was (the operand is copied into NEW objects) -/
theorem setitem_keeps_existing_objects_within_cap (s : BState) (a : Nat) (k v r : Val) (s' : BState)
    (h : bSetItem s (.ref a) k v = .ok (r, s')) (b : Nat) (hb : b < s.heap.size) :
    objLen (s'.heap.get? b) ≤ max maxArraySize (objLen (s.heap.get? b)) ∧ (b ≠ a → s'.heap.get? b = s.heap.get? b) := by
  obtain ⟨h1, hlt, h', o, hx, hs, ho⟩ := setitem_heap_shape s a k v r s' h
  rw [hs]
  exact ⟨hx.2 b hb ▸ objLen_set_le h' a o ho b, fun hne => by rw [get?_set_ne _ (Ne.symm hne), hx.2 b hb]⟩

/-- non-vacuity: `d["k"] = 1` on an empty dict object succeeds -/
example : ∃ r s', bSetItem { heap := #[.dict []], rng := 0, rx := [] } (.ref 0) (.str ['k']) (.int 1) = .ok (r, s') :=
  ⟨_, _, rfl⟩

end SqProps.C03
