/-
  C13 (continued) — [B] over whole programs: sorted, reversed, shuffle, map, filter, reduce, enumerate, keys, values, items,
  join, split, sum, min, max, get, index_of, pretty, len, str, the string and regex functions — in any combination, with
  lambdas as callbacks, inside lambdas, under host trampolines — leave lists, dicts and host objects exactly as they were:
  a program that names none of the seven mutators and has no compound assignment changes NO object that existed before
  it ran (only the names mapping, which top-level assignments write).  SqLemmas/InvHeap.lean, on top of
  the generic configuration invariant (InvMachine).
-/
import SqLemmas.InvHeap
namespace SqProps.C13
open Sq Sq.Inv

/-- one machine step, stated generically: under the configuration invariant with "no mutator is a value" and "no compound
    assignment is pending", only scope dictionaries change -/
theorem step_changes_only_scopes {Pc : List Op → Op → Nat → Prop} {Pb Pq : String → Prop} {Pr : Nat → Prop} {Po : Op → Prop} {Pn : Name → Prop}
    {Psh : Prop} (hok : OpsOK Pc Pb Po Pn Psh) (hb : ∀ n, Pb n → n ∉ mutatorNames) (hsh : ¬ Psh) (budgets : List Nat) (c : Core)
    (hc : CorePDg Pc Pb Pq Pr Po Pn Psh c) : HPres c.w (stepCore budgets c).w :=
  (quiet_step hok hb hsh budgets c hc.np).toHPres

/-- **a program without mutators changes no host object** (other than scope dictionaries — the names mapping):
    at every step of the run — through every lambda, every map / filter / reduce / sorted callback, every host
    trampoline, every non-mutating builtin and every assignment with its deep copy — each object that existed before
    the evaluation is exactly what it was -/
theorem quiet_program_changes_no_host_object (w : World) (bs : List Nat) (namesAddr budget : Nat) (tree : Op)
    (astNames : List (Name × Op)) (hw : QuietWorld w) (ht : Quiet tree) (ha : ∀ p, p ∈ astNames → Quiet p.2) (i a : Nat)
    (hlt : a < w.heap.size) (hs : a ∉ scopesOf w) (hn : a ≠ namesAddr) :
    (run i (initCfg w bs namesAddr budget tree astNames)).w.heap.get? a = w.heap.get? a := by
  have hp := run_hp opsOK_quiet (fun _ h => h) (fun h => h) _
    (init_quiet w bs namesAddr budget tree astNames hw ht ha) i
  -- the scope dictionaries of the initial configuration: those of `w`, and `namesAddr` for the new VM state
  refine hp.keep a hlt (fun hm => ?_)
  obtain ⟨vm, hvm, hav⟩ := mem_scopesOf.mp hm
  rcases List.mem_append.mp hvm with h | h
  · exact hs (mem_scopesOf.mpr ⟨vm, h, hav⟩)
  · rw [List.mem_singleton.mp h] at hav
    exact hn (List.mem_singleton.mp hav)

/-- the seven excluded names are exactly the mutators of the builtin table -/
theorem quiet_excludes_exactly_the_mutators (n : Name) : QuietName n ↔ String.ofList n ∉ mutatorNames := Iff.rfl

/-- non-vacuity: `sorted(map(xs, v => v + 1))` is such a program … -/
example : Quiet (.call "sorted".toList [.call "map".toList [.name "xs".toList,
    .lambda [.name "v".toList] (.bin .add (.name "v".toList) (.value (.num ⟨false, 1, 0⟩)))]]) := by
  refine .call (by unfold QuietName; decide) ?_
  intro a ha; simp at ha; subst ha
  refine .call (by unfold QuietName; decide) ?_
  intro a ha; simp at ha
  rcases ha with rfl | rfl
  · exact .name (by unfold QuietName; decide)
  · exact .lambda (.bin (.name (by unfold QuietName; decide)) .value)

/-- … and `xs.push(1)` (= `push(xs, 1)`) is not -/
example : ¬ Quiet (.call "push".toList [.name "xs".toList, .value (.num ⟨false, 1, 0⟩)]) := by
  intro h; cases h with | call h _ => exact absurd h (by unfold QuietName; decide)

end SqProps.C13
