/-
  C20 — syntax-error messages name the offending token and its physical line.
  The message format; the line bookkeeping of each lexer step; and the whole-text theorem
  `lineno_is_physical_line`: every token of every text carries the physical line of its first
  character (loop invariant of the token loop, SqLemmas/LexLemmas.lean).  [B] `offending_token_is_a_token_of_the_text`
  (the induction over the parser functions in SqLemmas/ParseSound.lean, read for the rejected inputs): whatever syntax
  error the parser reports, the token it names is one of the tokens of the text (or the end of the input), and a
  reserved-word error names a token of the text.  Together: `syntax_error_names_a_token_and_its_physical_line`.
-/
import Sq.Proto
import SqLemmas.LexLemmas
import SqLemmas.ParseSound
namespace SqProps.C20
open Sq

/-- the message names the token's value and the token's own line -/
theorem message_format (t : Token) (rest : List Token) :
    Proto.syntaxMessage (t :: rest) =
      "Syntax error: ".toList ++ Proto.tokenText t ++ " at line ".toList ++ Dec.natDigits t.line := rfl

/-- an error at the very end of the text is reported as an unexpected end of input -/
theorem end_of_input_message : Proto.syntaxMessage [] = "Syntax error: unexpected end of input".toList := rfl

/-- `;` never advances the line counter -/
theorem semicolon_keeps_line (st : LexSt) (cs : List Char) :
    ∃ t st', lexStep st (';' :: cs) = .tok t st' cs ∧ st'.line = st.line ∧ t.line = st.line :=
  ⟨_, _, lexStep_semi st cs, rfl, rfl⟩

/-- a line break advances the counter by one, at depth 0 (token carries the line it ends) … -/
theorem newline_advances_line_depth0 (st : LexSt) (cs : List Char) (h : st.depth = 0) :
    ∃ t st', lexStep st ('\n' :: cs) = .tok t st' cs ∧ st'.line = st.line + 1 ∧ t.line = st.line :=
  ⟨_, _, (lexStep_lf st cs).trans (if_pos h), rfl, rfl⟩

/-- … and inside brackets (where no token is produced) -/
theorem newline_advances_line_in_brackets (st : LexSt) (cs : List Char) (h : st.depth ≠ 0) :
    ∃ st', lexStep st ('\n' :: cs) = .skip st' cs ∧ st'.line = st.line + 1 :=
  ⟨_, (lexStep_lf st cs).trans (if_neg h), rfl⟩

/-- every token produced by `mk` carries the line counter at its start and leaves it unchanged -/
theorem mk_line (ty : Tk) (v : List Char) (st : LexSt) (n : Nat) (dd : Int) (rest : List Char) :
    ∃ t st', mk ty v st n dd rest = .tok t st' rest ∧ t.line = st.line ∧ st'.line = st.line :=
  ⟨_, _, rfl, rfl, rfl⟩

/-- **the reported line is the physical line**: for EVERY text, every token the lexer delivers (also those delivered
    before a lexical error) carries `1 +` the number of line feeds that precede its first character — whatever mixture
    of `;`, LF, CRLF, comments and multi-line bracketed literals comes before it.  (Loop invariant of the token loop:
    `lineno = 1 + line feeds consumed`; no token except a line break contains a line feed.) -/
theorem lineno_is_physical_line (text : List Char) :
    ∀ t ∈ tokensOf (lexFrom LexSt.init text), t.line = 1 + nl (text.take t.pos) := by
  intro t ht
  obtain ⟨post, st1, acc1, st', r, hr, hs⟩ := tokens_reached _ _ t ht
  obtain ⟨u, e, hp, hl⟩ := reach_advance hr
  rw [(lexStep_stamp hs).2, (lexStep_stamp hs).1, hl, hp, e]
  simp [LexSt.init]

/-- … and its offset is the number of characters before it, so "the line of the token" is well defined -/
theorem message_line_is_token_line (t : Token) (rest : List Token) :
    ∃ pre, Proto.syntaxMessage (t :: rest) = pre ++ " at line ".toList ++ Dec.natDigits t.line :=
  ⟨"Syntax error: ".toList ++ Proto.tokenText t, rfl⟩

/-- **[B]** the token a syntax error points at is a token of the token list (`rest` is a suffix of it);
    an empty `rest` is the end of the input -/
theorem offending_token_is_a_token_of_the_text (ts : List Token) (rest : List Token)
    (h : parseTokens ts = .error (.syn rest)) : ∃ pre, ts = pre ++ rest :=
  parse_error_in_text h

theorem reserved_word_error_names_a_token (ts : List Token) (t : Token) (h : parseTokens ts = .error (.res t)) : t ∈ ts :=
  parse_error_in_text h

/-- **[B] the whole clause**: for every text the lexer reads completely and the parser rejects at a token `t`, the
    message is "Syntax error: <text of t> at line <n>" where `t` is one of the text's tokens and
    `n = 1 +` the number of line feeds before `t` — whatever `;`, line breaks inside brackets, CRLF or comments precede -/
theorem syntax_error_names_a_token_and_its_physical_line (text : List Char) (ts : List Token) (st' : LexSt)
    (t : Token) (rest : List Token)
    (hlex : lexFrom LexSt.init text = .ok (ts, st')) (hp : parseTokens ts = .error (.syn (t :: rest))) :
    t ∈ ts ∧ t.line = 1 + nl (text.take t.pos) ∧
    Proto.parseText LexSt.init text = .synErr (some t.pos)
      ("Syntax error: ".toList ++ Proto.tokenText t ++ " at line ".toList ++ Dec.natDigits (1 + nl (text.take t.pos))) := by
  obtain ⟨pre, hpre⟩ := parse_error_in_text hp
  have hm : t ∈ ts := by rw [hpre]; simp
  have hl : t.line = 1 + nl (text.take t.pos) := lineno_is_physical_line text t (by rw [hlex]; exact hm)
  refine ⟨hm, hl, ?_⟩
  rw [parseText_syn hlex hp, message_format, hl]
  rfl

/-- … and a rejection at the very end of the text is reported as an unexpected end of input -/
theorem end_of_text_error (text : List Char) (ts : List Token) (st' : LexSt)
    (hlex : lexFrom LexSt.init text = .ok (ts, st')) (hp : parseTokens ts = .error (.syn [])) :
    Proto.parseText LexSt.init text = .synErr none "Syntax error: unexpected end of input".toList :=
  parseText_syn hlex hp

/-! finite tests on the model (the D6 witnesses: the physical line is reported) -/
example : Proto.outcome "1;2 3" = (.syn, "Syntax error: 3 at line 1".toList) := by decide +kernel
example : Proto.outcome "[1,\n2] x" = (.syn, "Syntax error: x at line 2".toList) := by decide +kernel
example : Proto.outcome "a\nb\r\nc d" = (.syn, "Syntax error: d at line 3".toList) := by decide +kernel
example : Proto.outcome "f(1,\n\n2); x y" = (.syn, "Syntax error: y at line 3".toList) := by decide +kernel
example : Proto.outcome "x = [\n1,\n2" = (.syn, "Syntax error: unexpected end of input".toList) := by decide +kernel

end SqProps.C20
