/-
  C10 (continued) — [B] over whole runs, for programs without mutators and compound assignments: parameter bindings and
  assignments made during a lambda call go to the call's own scope dictionary and nowhere else — a scope dictionary that
  is covered (the host's names mapping, or the scope of an enclosing lambda call, while an inner call is in progress)
  cannot change.  One machine step changes at most the TOP scope dictionaries (`HStep`, SqLemmas/HeapStep.lean); together
  with `scope_balanced` / `host_scope_beneath` (which scopes ARE on top during a call) this is the "never alter an outer
  or host binding of the same name" clause.  Then the same for ANY program, mutators and compound assignments included,
  for a covered scope dictionary that no value mentions (`Unmentioned`; SqLemmas/InvSep.lean).
-/
import SqLemmas.InvHeap
import SqLemmas.InvSep
namespace SqProps.C10
open Sq Sq.Inv

/-- one machine step, generically: under the configuration invariant with no mutator as a value and no compound assignment
    pending, every existing object other than the top scope dictionaries is unchanged -/
theorem step_writes_only_top_scopes {Pc : List Op → Op → Nat → Prop} {Pb Pq : String → Prop} {Pr : Nat → Prop} {Po : Op → Prop} {Pn : Name → Prop}
    {Psh : Prop} (hok : OpsOK Pc Pb Po Pn Psh) (hb : ∀ n, Pb n → n ∉ mutatorNames) (hsh : ¬ Psh) (budgets : List Nat) (c : Core)
    (hc : CorePDg Pc Pb Pq Pr Po Pn Psh c) (a : Nat) (ha : a < c.w.heap.size) (hna : a ∉ topsOf c.w) :
    (stepCore budgets c).w.heap.get? a = c.w.heap.get? a :=
  (quiet_step hok hb hsh budgets c hc.np).keep a ha hna

/-- **assignments made during a lambda call never alter a covered (outer or host) scope** (mutator-free programs): from
    any configuration of the run on, as long as the scope dictionary at `a` — the host's names mapping, or the scope of
    an enclosing lambda call — is covered by another scope (it is not the top scope of any VM state), nothing the
    program does changes it: parameter bindings and assignments of the inner call go to the inner call's own scope -/
theorem assignments_in_calls_leave_covered_scopes (w : World) (bs : List Nat) (namesAddr budget : Nat) (tree : Op)
    (astNames : List (Name × Op)) (hw : QuietWorld w) (ht : Quiet tree) (ha : ∀ p, p ∈ astNames → Quiet p.2) (i n a : Nat)
    (hlt : a < (run i (initCfg w bs namesAddr budget tree astNames)).w.heap.size)
    (hcov : ∀ j, j < n → a ∉ topsOf (run (i + j) (initCfg w bs namesAddr budget tree astNames)).w) :
    (run (i + n) (initCfg w bs namesAddr budget tree astNames)).w.heap.get? a =
      (run i (initCfg w bs namesAddr budget tree astNames)).w.heap.get? a := by
  have hi := run_np opsOK_quiet _ (init_quiet w bs namesAddr budget tree astNames hw ht ha) i
  rw [run_add]
  exact run_keep (fun _ => False) opsOK_quiet (pureOK_of_nonmut fun _ h => h) (inplaceOK_of_not fun h => h)
    _ hi a hlt (fun f => f) n (fun j hj => by rw [← run_add]; exact hcov j hj)

/-- the top scopes are scope dictionaries (so "not a scope dictionary at all" is a special case of "covered") -/
theorem tops_are_scopes {w : World} {a : Nat} (h : a ∈ topsOf w) : a ∈ scopesOf w := tops_sub_scopes h

/-- "no value of the world mentions the address `a`" — in any object of the heap, any pending engine answer, any probe
    answer; closures, builtins, host callables and opaque objects of any kind are allowed -/
abbrev Unmentioned (a : Nat) (w : World) : Prop :=
  WorldNPg (fun _ _ _ => True) (fun _ => True) (fun _ => True) (· ≠ a) w

/-- **a covered scope dictionary survives every program** — mutators (`push`, `pop`, `insert`, `remove`, index assignment,
    compound index assignment, `del`) and compound assignments included: if no value of the host's world mentions the
    address `a` (nobody holds a reference to that dictionary — in particular `a` may be the host's names mapping or any
    scope beneath a lambda call), then along the whole evaluation of ANY program the object at `a` keeps its content for
    as long as `a` is not the top scope of a VM state.  Assignments write to the top scope only; mutators reach objects
    only through values, and no value ever comes to mention `a`. -/
theorem covered_scopes_survive_any_program (w : World) (bs : List Nat) (namesAddr budget : Nat) (tree : Op)
    (astNames : List (Name × Op)) (a : Nat) (ha : a < w.heap.size) (hw : Unmentioned a w) (n : Nat)
    (hcov : ∀ i, i < n → a ∉ topsOf (run i (initCfg w bs namesAddr budget tree astNames)).w) :
    (run n (initCfg w bs namesAddr budget tree astNames)).w.heap.get? a = w.heap.get? a :=
  unmentioned_object_unchanged opsOK_true (fun _ => trivial) _
    (init_inv w bs namesAddr budget tree astNames hw trivial (fun _ _ => trivial)) a ha (fun h => h rfl) n hcov

/-- non-vacuity: the host's names mapping at address 0 holding a list (address 1) of numbers: nobody mentions 0 -/
example : Unmentioned 0
    { heap := #[.dict [(.str ['x'], .ref 1)], .list [.int 1, .int 2]], vms := [], log := [], rng := 0, rx := [],
      probes := [] } := by
  refine ⟨⟨?_, fun b hb => by simp at hb; omega⟩, fun a h => (by cases h), fun p h => (by cases h)⟩
  intro b o hg
  match b with
  | 0 =>
    simp [Heap.get?] at hg; subst hg
    intro kv hkv; simp at hkv; subst hkv; exact ⟨.str, .ref (by decide)⟩
  | 1 =>
    simp [Heap.get?] at hg; subst hg
    intro v hv; simp at hv; rcases hv with e | e <;> subst e <;> exact .int
  | n + 2 => simp [Heap.get?] at hg

end SqProps.C10
