/-
  C02: `NP` is the generic invariant of InvAll / InvMachine with nothing asked of closures, builtin values, addresses,
  pending nodes and names, and no opaque object allowed; the theorems about it are the generic ones read through that
  translation.  `PD` (in addition: no type object `dict`) is only weakened to `NP`.
-/
import SqLemmas.InvMachine
namespace Sq

/-- no opaque object anywhere inside the value -/
inductive NP : Val → Prop
  | none : NP .none
  | bool {x} : NP (.bool x)
  | dec {d c} : NP (.dec d c)
  | int {i} : NP (.int i)
  | str {s} : NP (.str s)
  | slice {x y z} : NP (.slice x y z)
  | ref {a} : NP (.ref a)
  | builtin {n} : NP (.builtin n)
  | closure {ps body vm} : NP (.closure ps body vm)
  | host {i} : NP (.host i)
  | tuple {vs} : (∀ v, v ∈ vs → NP v) → NP (.tuple vs)

def ObjNP : HObj → Prop
  | .list xs => ∀ v, v ∈ xs → NP v
  | .dict kvs => ∀ kv, kv ∈ kvs → NP kv.1 ∧ NP kv.2

def HeapNP (h : Heap) : Prop := ∀ a o, h.get? a = some o → ObjNP o

def AllNP (vs : List Val) : Prop := ∀ v, v ∈ vs → NP v

def RxNP (rx : List RxAns) : Prop :=
  ∀ a, a ∈ rx → match a with
    | .matched g0 gs => NP g0 ∧ AllNP gs
    | .all items => AllNP items
    | _ => True

def StNP (s : BState) : Prop := HeapNP s.heap ∧ RxNP s.rx

/-- plain data that is not (and does not contain) the type object `dict` -/
inductive PD : Val → Prop
  | none : PD .none
  | bool {x} : PD (.bool x)
  | dec {d c} : PD (.dec d c)
  | int {i} : PD (.int i)
  | str {s} : PD (.str s)
  | slice {x y z} : PD (.slice x y z)
  | ref {a} : PD (.ref a)
  | builtin {n} : n ≠ "dict" → PD (.builtin n)
  | closure {ps body vm} : PD (.closure ps body vm)
  | host {i} : PD (.host i)
  | tuple {vs} : (∀ v, v ∈ vs → PD v) → PD (.tuple vs)

def AllPD (vs : List Val) : Prop := ∀ v, v ∈ vs → PD v

def ObjPD : HObj → Prop
  | .list xs => AllPD xs
  | .dict kvs => ∀ kv, kv ∈ kvs → PD kv.1 ∧ PD kv.2
def HeapPD (h : Heap) : Prop := ∀ a o, h.get? a = some o → ObjPD o

def SrcP (P : Val → Prop) : IterSrc → Prop
  | .live _ _ => True
  | .snap items => ∀ l, l ∈ items → ∀ v, v ∈ l → P v

def KindP (P : Val → Prop) : IterKind → Prop
  | .sortKeys items _ _ => ∀ v, v ∈ items → P v
  | _ => True

def FrameP (P : Val → Prop) : Frame → Prop
  | .binR _ va => P va
  | .argsK _ done _ _ => ∀ v, v ∈ done → P v
  | .dictK done _ _ => ∀ v, v ∈ done → P v
  | .iterK kind f src cur acc => KindP P kind ∧ P f ∧ SrcP P src ∧ P cur ∧ ∀ v, v ∈ acc → P v
  | _ => True

def CtlP (P : Val → Prop) : Ctl → Prop
  | .ret v => P v
  | .done v => P v
  | _ => True

def ProbesP (P : Val → Prop) (ps : List (Int × ProbeAct)) : Prop :=
  ∀ p, p ∈ ps → match p.2 with | .ret v => P v | .raise _ => True

def RxP (P : Val → Prop) (rx : List RxAns) : Prop :=
  ∀ a, a ∈ rx → match a with
    | .matched g0 gs => P g0 ∧ ∀ v, v ∈ gs → P v
    | .all items => ∀ v, v ∈ items → P v
    | _ => True

structure WorldNP (w : World) : Prop where
  heap : HeapNP w.heap
  rx : RxNP w.rx
  probes : ProbesP NP w.probes

structure WorldPD (w : World) : Prop where
  heap : HeapPD w.heap
  rx : RxP PD w.rx
  probes : ProbesP PD w.probes

structure CoreNP (c : Core) : Prop where
  ctl : CtlP NP c.ctl
  frames : ∀ fr, fr ∈ c.k → FrameP NP fr
  world : WorldNP c.w

structure CorePD (c : Core) : Prop where
  ctl : CtlP PD c.ctl
  frames : ∀ fr, fr ∈ c.k → FrameP PD fr
  world : WorldPD c.w

abbrev FK (k : List Frame) : Prop := ∀ fr, fr ∈ k → FrameP NP fr

abbrev NPi : Val → Prop := Inv.NPg (fun _ _ _ => True) (fun _ => True) (fun _ => False) (fun _ => True)
abbrev HeapNPi : Heap → Prop := Inv.HeapNPg (fun _ _ _ => True) (fun _ => True) (fun _ => False) (fun _ => True)
abbrev StNPi : BState → Prop := Inv.StNPg (fun _ _ _ => True) (fun _ => True) (fun _ => False) (fun _ => True)
abbrev FramePi : (Val → Prop) → Frame → Prop := Inv.FramePg (fun _ => True) (fun _ => True) True
abbrev CoreNPi : Core → Prop :=
  Inv.CoreNPg (fun _ _ _ => True) (fun _ => True) (fun _ => False) (fun _ => True) (fun _ => True) (fun _ => True) True

theorem NP.inv {v : Val} (h : NP v) : NPi v := by
  induction h with
  | ref => exact .ref trivial
  | builtin => exact .builtin trivial
  | closure => exact .closure trivial
  | tuple _ ih => exact .tuple ih
  | _ => constructor

theorem NP.of_inv {v : Val} (h : NPi v) : NP v := by
  induction h with
  | «opaque» h => exact h.elim
  | tuple _ ih => exact .tuple ih
  | _ => constructor

theorem PD.np {v : Val} (h : PD v) : NP v := by
  induction h with
  | tuple _ ih => exact .tuple ih
  | _ => constructor

theorem HeapNP.inv {h : Heap} (hh : HeapNP h) : HeapNPi h :=
  ⟨fun a o hg => Inv.ObjP.imp (fun _ => NP.inv) (hh a o hg), fun _ _ => trivial⟩

theorem HeapNP.of_inv {h : Heap} (hh : HeapNPi h) : HeapNP h :=
  fun a o hg => Inv.ObjP.imp (fun _ => NP.of_inv) (hh.1 a o hg)

theorem StNP.inv {s : BState} (h : StNP s) : StNPi s := ⟨h.1.inv, Inv.RxP.imp (fun _ => NP.inv) h.2⟩

theorem StNP.of_inv {s : BState} (h : StNPi s) : StNP s := ⟨.of_inv h.1, Inv.RxP.imp (fun _ => NP.of_inv) h.2⟩

/-- the two ways of writing "the values of a frame / of the control satisfy `P`" differ by conjuncts `True` -/
theorem FrameP.iff {P : Val → Prop} : ∀ {fr : Frame}, FrameP P fr ↔ FramePi P fr
  | .argsK .. => ⟨fun h => ⟨h, trivial, fun _ _ => trivial⟩, And.left⟩
  | .dictK .. => ⟨fun h => ⟨h, fun _ _ => trivial⟩, And.left⟩
  | .codeK .. | .sliceK .. => ⟨fun _ _ _ => trivial, fun _ => trivial⟩
  | .ifK .. | .shortK .. => ⟨fun _ => ⟨trivial, trivial⟩, fun _ => trivial⟩
  | .astK .. => ⟨fun _ => ⟨fun _ _ => trivial, trivial⟩, fun _ => trivial⟩
  | .binR .. | .iterK .. | .binL .. | .unK _ | .assignK .. | .popScopeK _ | .tryK => Iff.rfl

theorem CtlP.iff {P : Val → Prop} : ∀ {c : Ctl}, CtlP P c ↔ Inv.CtlPg (fun _ => True) P c
  | .ret _ | .done _ | .ev .. | .raise _ | .failed _ => Iff.rfl

theorem CoreNP.inv {c : Core} (h : CoreNP c) : CoreNPi c where
  ctl := (CtlP.iff.mp h.ctl).imp fun _ => NP.inv
  frames fr hfr := (FrameP.iff.mp (h.frames fr hfr)).imp fun _ => NP.inv
  world := ⟨h.world.heap.inv, Inv.RxP.imp (fun _ => NP.inv) h.world.rx, Inv.ProbesP.imp (fun _ => NP.inv) h.world.probes⟩

theorem CoreNP.of_inv {c : Core} (h : CoreNPi c) : CoreNP c where
  ctl := CtlP.iff.mpr (h.ctl.imp fun _ => NP.of_inv)
  frames fr hfr := FrameP.iff.mpr ((h.frames fr hfr).imp fun _ => NP.of_inv)
  world := ⟨.of_inv h.world.heap, Inv.RxP.imp (fun _ => NP.of_inv) h.world.rx,
    Inv.ProbesP.imp (fun _ => NP.of_inv) h.world.probes⟩

theorem allocList_np {s : BState} (hh : HeapNP s.heap) {xs : List Val} (hx : AllNP xs) :
    NP (allocList s xs).1 ∧ HeapNP (allocList s xs).2.heap :=
  (Inv.allocList_np hh.inv fun v hv => (hx v hv).inv).imp NP.of_inv HeapNP.of_inv

theorem checkArraySize_ok {h : Heap} {c : Val} : True := trivial

theorem fk_tail {fr : Frame} {k : List Frame} (hk : FK (fr :: k)) : FK k := fun x hx => hk x (by simp [hx])

theorem heap_listPD {h : Heap} (hh : HeapPD h) {a : Nat} {xs : List Val} (hg : h.get? a = some (.list xs)) : AllPD xs :=
  hh a _ hg

/-- one machine step keeps plain data plain, whatever it does: any builtin, lambda call, map / filter / reduce / sorted,
    host callback, assignment with its deep copy, error unwinding -/
theorem plain_step_np (budgets : List Nat) (c : Core) (hc : CoreNP c) : CoreNP (stepCore budgets c) :=
  .of_inv (Inv.step_np Inv.opsOK_true budgets c hc.inv)

theorem plain_run (c : Cfg) (h0 : CoreNP c.core) (i : Nat) : CoreNP (run i c).core :=
  .of_inv (Inv.run_np Inv.opsOK_true c h0.inv i)

theorem CorePD.np {c : Core} (h : CorePD c) : CoreNP c where
  ctl := CtlP.iff.mpr ((CtlP.iff.mp h.ctl).imp fun _ => PD.np)
  frames fr hfr := FrameP.iff.mpr ((FrameP.iff.mp (h.frames fr hfr)).imp fun _ => PD.np)
  world := ⟨fun a o hg => Inv.ObjP.imp (fun _ => PD.np) (h.world.heap a o hg), Inv.RxP.imp (fun _ => PD.np) h.world.rx,
    Inv.ProbesP.imp (fun _ => PD.np) h.world.probes⟩

theorem plain_step (budgets : List Nat) (c : Core) (hc : CorePD c) : CoreNP (stepCore budgets c) :=
  plain_step_np budgets c hc.np

end Sq
