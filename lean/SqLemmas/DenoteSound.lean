/-
  The compositional semantics of Sq/Denote.lean and the abstract machine agree.  What each
  transition of the machine does, said in the terms of the semantics; one induction showing that each of the six
  functions of the semantics is implemented by the core the machine runs it on (`adequate`); its three readings (sound,
  monotone in the fuel, complete); at the end, what soundness means for a run from the top (the machine halts).
-/
import SqLemmas.DenoteAgree
set_option autoImplicit false
namespace Sq.Den

variable {B : List Nat}

/-! The leaf actions of Sq/Denote.lean (`nameAct`, `binAct`, …, `sortedStart`) transcribe the bodies of `enter`, `resume`
    and the `call*` functions of the machine with an outcome in place of a core: hence the equations below. -/

theorem enter_name (n : Name) (vmi : Nat) (k : List Frame) (w : World) :
    enter (.name n) vmi k w = mkP (nameAct n vmi w) k := by
  unfold nameAct
  simp only [enter]
  -- the two sides are the same tree of matches: split one, rewrite the other with the equation `split` leaves behind
  repeat' (split <;> simp only [*])
  all_goals rfl

theorem resume_binR (bk : BinK) (va vb : Val) (k : List Frame) (w : World) :
    resume (.binR bk va) vb k w = mkP (binAct bk va vb w) k := by
  unfold binAct
  simp only [resume]
  repeat' (split <;> simp only [*])
  all_goals rfl

theorem resume_unK (uk : UnK) (v : Val) (k : List Frame) (w : World) :
    resume (.unK uk) v k w = mkP (unAct uk v w) k := by
  unfold unAct
  simp only [resume]
  repeat' (split <;> simp only [*])
  all_goals rfl

theorem resume_assignK (n : Name) (vmi : Nat) (v : Val) (k : List Frame) (w : World) :
    resume (.assignK n vmi) v k w = mkP (assignAct n vmi v w) k := by
  unfold assignAct
  simp only [resume]
  repeat' (split <;> simp only [*])
  all_goals rfl

theorem resume_shortK (n : Name) (sk : ShortK) (vmi : Nat) (v : Val) (k : List Frame) (w : World) :
    resume (.shortK n sk vmi) v k w = mkP (shortAct n sk vmi v w) k := by
  unfold shortAct
  simp only [resume]
  repeat' (split <;> simp only [*])
  all_goals rfl

theorem resume_dictK_last (done : List Val) (vmi : Nat) (v : Val) (k : List Frame) (w : World) :
    resume (.dictK done [] vmi) v k w = mkP (dictAct (v :: done).reverse w) k := by
  unfold dictAct
  simp only [resume]
  repeat' (split <;> simp only [*])
  all_goals rfl

theorem enter_dict_nil (vmi : Nat) (k : List Frame) (w : World) :
    enter (.dict []) vmi k w = mkP (dictAct [] w) k := rfl

theorem ofBR_pure (name : String) (args : List Val) (k : List Frame) (w : World) :
    ofBR (callPure name args w.bstate) k w = mkP (pureAct name args w) k := by
  unfold pureAct
  cases callPure name args w.bstate with
  | error e => exact ofBR_error e k w
  | ok p => exact ofBR_ok p.1 p.2 k w

theorem callProbe_eq (args : List Val) (k : List Frame) (w : World) :
    callProbe args k w = mkP (probeAct args w) k := by
  unfold callProbe probeAct mkP
  cases args with
  | nil => rfl
  | cons a t =>
    cases t with
    | cons b t' => rfl
    | nil =>
      simp only []
      generalize Option.bind _ _ = act
      rcases act with _ | (v | e) <;> rfl

theorem sortFinish_eq (keys items : List Val) (rev dm : Bool) (k : List Frame) (w : World) :
    sortFinish keys items rev dm k w = mkP (sortAct keys items rev dm w) k := by
  unfold sortFinish sortAct mkP
  cases sortedBy w.heap keys items rev with
  | error e => rfl
  | ok sorted => cases dm <;> rfl

def startCore (st : Start) (it : IterFn) (k : List Frame) (w : World) : Core :=
  match st with
  | .now o w' => mk o k w'
  | .iter kind g src acc => it kind g src acc k w

theorem callMap_eq (it : IterFn) (args : List Val) (k : List Frame) (w : World) :
    callMap it args k w = startCore (mapStart args w) it k w := by
  unfold callMap mapStart
  repeat' (split <;> simp only [*])
  all_goals rfl

theorem callFilter_eq (it : IterFn) (args : List Val) (k : List Frame) (w : World) :
    callFilter it args k w = startCore (filterStart args w) it k w := by
  unfold callFilter filterStart
  repeat' (split <;> simp only [*])
  all_goals rfl

theorem callReduce_eq (it : IterFn) (args : List Val) (k : List Frame) (w : World) :
    callReduce it args k w = startCore (reduceStart args w) it k w := by
  unfold callReduce reduceStart
  repeat' (split <;> simp only [*])
  all_goals rfl

theorem callSorted_eq (it : IterFn) (args : List Val) (k : List Frame) (w : World) :
    callSorted it args k w = startCore (sortedStart args w) it k w := by
  rcases args with _ | ⟨c, rest⟩
  · rfl
  unfold callSorted sortedStart
  simp only [sortFinish_eq]
  by_cases hlen : rest.length > 2
  · rw [if_pos hlen, if_pos hlen]; rfl
  · rw [if_neg hlen, if_neg hlen]
    generalize (if isDict w.heap c = true then _ else iterItems w.heap c) = itemsR
    generalize reverseFlag w.heap _ = rv
    generalize rest.headD Val.none = key
    rcases itemsR with e | items
    · rfl
    rcases rv with e | rev
    · rfl
    simp only []
    -- a key that is neither None nor opaque: the same on both sides whichever constructor it is
    have other : ∀ (kind : IterKind) (src : IterSrc),
        (if isCallable key then it kind key src [] k w
          else if items.isEmpty then mkP (sortAct [] [] rev (isDict w.heap c) w) k else mkRaise .typeError k w) =
        startCore (if isCallable key then .iter kind key src []
          else if items.isEmpty then .now (sortAct [] [] rev (isDict w.heap c) w).1 (sortAct [] [] rev (isDict w.heap c) w).2
          else .now (.raise .typeError) w) it k w := by
      intro kind src
      split
      · rfl
      · split <;> rfl
    cases key with
    | none => rfl
    | «opaque» _ => rfl
    | _ => exact other _ _

theorem callVal_app_nil (tf : Nat) (fn : Val) (args : List Val) (ks : List Frame) (w : World) :
    (callVal tf fn args [] w).app ks = callVal tf fn args ks w :=
  (((call_local tf).1 fn args w).app_append [] ks).symm

theorem iterNext_app_nil (tf : Nat) (kind : IterKind) (g : Val) (src : IterSrc) (acc : List Val) (ks : List Frame) (w : World) :
    (iterNext tf kind g src acc [] w).app ks = iterNext tf kind g src acc ks w :=
  (((call_local tf).2 kind g src acc w).app_append [] ks).symm

/-! `iterNext_of_none` / `iterNext_of_some` (MachineLemmas) at fuel `tf + 1`, in the words of the semantics (`iterDone`, `cbArgs`) -/

theorem iterNext_done (tf : Nat) (kind : IterKind) (g : Val) (src : IterSrc) (acc : List Val) (k : List Frame) (w : World)
    (hn : nextItem w.heap src = none) : iterNext (tf + 1) kind g src acc k w = mkP (iterDone kind acc w) k := by
  rw [iterNext_of_none (Nat.succ_pos tf) hn]
  cases kind with
  | sortKeys items rev dm => exact sortFinish_eq _ _ _ _ _ _
  | _ => rfl

theorem iterNext_some (tf : Nat) (kind : IterKind) (g : Val) (src src' : IterSrc) (item acc : List Val) (k : List Frame)
    (w : World) (hn : nextItem w.heap src = some (item, src')) :
    iterNext (tf + 1) kind g src acc k w =
      callVal tf g (cbArgs kind acc item) (.iterK kind g src' (item.headD .none) acc :: k) w :=
  iterNext_of_some (Nat.succ_pos tf) hn k

theorem resume_iterK (kind : IterKind) (g : Val) (src : IterSrc) (cur : Val) (acc : List Val) (v : Val) (k : List Frame)
    (w : World) : resume (.iterK kind g src cur acc) v k w = iterNext callFuel kind g src (accAfter kind w.heap v cur acc) k w := by
  cases kind <;> rfl

theorem unwind_iterK (kind : IterKind) (g : Val) (src : IterSrc) (cur : Val) (acc : List Val) (e : PyErr) (k : List Frame)
    (w : World) : unwind (.iterK kind g src cur acc) e k w = mkRaise e k w := rfl

theorem resume_popScopeK (vmi : Nat) (v : Val) (k : List Frame) (w : World) :
    resume (.popScopeK vmi) v k w = mkP (popScope vmi (.ret v) w) k := by
  unfold popScope mkP
  simp only [resume]
  cases w.vm? vmi <;> rfl

theorem unwind_popScopeK (vmi : Nat) (e : PyErr) (k : List Frame) (w : World) :
    unwind (.popScopeK vmi) e k w = mkP (popScope vmi (.raise e) w) k := by
  unfold popScope mkP
  simp only [unwind]
  cases w.vm? vmi <;> rfl

theorem after_popScopeK (vmi : Nat) (o : Out) (k : List Frame) (w : World) :
    after (.popScopeK vmi) o k w = mkP (popScope vmi o w) k := by
  cases o
  · exact resume_popScopeK vmi _ k w
  · exact unwind_popScopeK vmi _ k w

theorem after_tryK (o : Out) (k : List Frame) (w : World) : after .tryK o k w = mkP (tryAct o w) k := by
  cases o with
  | ret v => rfl
  | raise e =>
    unfold after tryAct mkP
    simp only [unwind]
    cases e <;> rfl

theorem doCall_eq (n : Name) (vs : List Val) (vmi : Nat) (k : List Frame) (w : World) :
    doCall n vs vmi k w =
      match w.vm? vmi with
      | none => mk (.raise (.unmodelled "vm")) k w
      | some vm => match lookupName w.heap vm.scopes n with
        | none => mk (.raise (.parser "Undefined function")) k w
        | some fn => callVal callFuel fn vs k w := rfl

/-- what calling a function value comes to before anything further is evaluated: `callVal` and `applyVal` take the same
    decision and differ in what they do with it (`Call.core`, `Call.res`) -/
inductive Call
  | decided (o : Out) (w : World)
  | body (body : Op) (vmi : Nat) (w : World)
  | start (st : Start)
  | apply (g : Val) (rest : List Val)
  | tryApply (g : Val) (rest : List Val)

def callOf (fn : Val) (args : List Val) (w : World) : Call :=
  match fn with
  | .closure params body vmi =>
    (match bindParams params args [] with
     | none => .decided (.raise .attributeError) w
     | some kvs =>
       match w.vm? vmi with
       | none => .decided (.raise (.unmodelled "vm")) w
       | some vm => .body body vmi (({ w with heap := (w.heap.alloc (.dict kvs)).1 }).setVM vmi
                       { vm with scopes := (w.heap.alloc (.dict kvs)).2 :: vm.scopes }))
  | .builtin name =>
    if name == "map" then .start (mapStart args w)
    else if (args.head?.map isTypeObject).getD false then .decided (.raise (.unmodelled "type-object-arg")) w
    else if name == "filter" then .start (filterStart args w)
    else if name == "reduce" then .start (reduceStart args w)
    else if name == "sorted" then .start (sortedStart args w)
    else .decided (pureAct name args w).1 (pureAct name args w).2
  | .host id =>
    if id == "probe" then .decided (probeAct args w).1 (probeAct args w).2
    else if id == "apply" then
      (match args with
       | g :: rest => .apply g rest
       | [] => .decided (.raise .typeError) w)
    else if id == "try_apply" then
      (match args with
       | g :: rest => .tryApply g rest
       | [] => .decided (.raise .typeError) w)
    else .decided (.raise (.unmodelled "host")) w
  | .opaque _ => .decided (.raise (.unmodelled "call-opaque")) w
  | _ => .decided (.raise .typeError) w

def Call.core (tf : Nat) (k : List Frame) (w : World) : Call → Core
  | .decided o w' => mk o k w'
  | .body b vmi w' => { ctl := .ev b vmi, k := .popScopeK vmi :: k, w := w' }
  | .start st => startCore st (iterNext tf) k w
  | .apply g rest => callVal tf g rest k w
  | .tryApply g rest => callVal tf g rest (.tryK :: k) w

def Call.res (B : List Nat) (f tf : Nat) (w : World) : Call → Res
  | .decided o w' => some (o, w')
  | .body b vmi w' => andAlways (evalOp B f b vmi w') (popScope vmi)
  | .start st => startThen B f tf st w
  | .apply g rest => applyVal B f tf g rest w
  | .tryApply g rest => andAlways (applyVal B f tf g rest w) tryAct

theorem callVal_succ (tf : Nat) (fn : Val) (args : List Val) (k : List Frame) (w : World) :
    callVal (tf + 1) fn args k w = (callOf fn args w).core tf k w := by
  cases fn with
  | closure params body vmi =>
    simp only [callVal, callClosure, callOf]
    cases bindParams params args [] with
    | none => rfl
    | some kvs => cases w.vm? vmi <;> rfl
  | builtin name =>
    simp only [callVal, callOf, apply_ite (Call.core tf k w), callMap_eq, callFilter_eq, callReduce_eq, callSorted_eq,
      ofBR_pure]
    rfl
  | host id =>
    cases args <;>
    simp only [callVal, callOf, apply_ite (Call.core tf k w), callProbe_eq] <;> rfl
  | _ => rfl

theorem applyVal_succ (f tf : Nat) (fn : Val) (args : List Val) (w : World) :
    applyVal B (f + 1) (tf + 1) fn args w = (callOf fn args w).res B f tf w := by
  cases fn with
  | closure params body vmi =>
    simp only [applyVal, callOf]
    cases bindParams params args [] with
    | none => rfl
    | some kvs =>
      cases w.vm? vmi with
      | none => rfl
      | some vm => simp only [Call.res]; cases evalOp B f body vmi _ <;> rfl
  | builtin name =>
    simp only [applyVal, callOf, apply_ite (Call.res B f tf w)]
    rfl
  | host id =>
    rcases args with _ | ⟨g, rest⟩ <;> unfold applyVal <;>
    simp only [callOf, apply_ite (Call.res B f tf w)]
    · rfl
    · simp only [Call.res]; cases applyVal B f tf g rest w <;> rfl
  | _ => simp only [applyVal, callOf]; rfl

/-- a frame that collects the values of a list of expressions (call arguments, dict parts) -/
structure ListFrame (vmi : Nat) where
  F : List Val → List Op → Frame
  fin : List Val → World → Core
  next : ∀ done nxt rest v w, resume (F done (nxt :: rest)) v [] w = { ctl := .ev nxt vmi, k := [F (v :: done) rest], w := w }
  last : ∀ done v w, resume (F done []) v [] w = fin (v :: done).reverse w
  unw : ∀ done todo e k w, unwind (F done todo) e k w = mkRaise e k w

def argsLF (n : Name) (vmi : Nat) : ListFrame vmi where
  F := fun done todo => .argsK n done todo vmi
  fin := fun vs w => doCall n vs vmi [] w
  next := fun _ _ _ _ _ => rfl
  last := fun _ _ _ => rfl
  unw := fun _ _ _ _ _ => rfl

def dictLF (vmi : Nat) : ListFrame vmi where
  F := fun done todo => .dictK done todo vmi
  fin := fun vs w => mkP (dictAct vs w) []
  next := fun _ _ _ _ _ => rfl
  last := fun done v w => resume_dictK_last done vmi v [] w
  unw := fun _ _ _ _ _ => rfl

def listThen (r : Option (Except PyErr (List Val) × World)) (g : List Val → World → Res) : Res :=
  match r with
  | none => none
  | some (.error e, w1) => some (.raise e, w1)
  | some (.ok vs, w1) => g vs w1

theorem listThen_cons (f : Nat) (a : Op) (rest : List Op) (vmi : Nat) (w : World) (g : List Val → World → Res) :
    listThen (evalList B (f + 1) (a :: rest) vmi w) g =
      andThen (evalOp B f a vmi w) fun v w1 =>
        match rest with
        | [] => g [v] w1
        | b :: rest' => listThen (evalList B f (b :: rest') vmi w1) fun vs w2 => g (v :: vs) w2 := by
  rw [evalList]
  cases f with
  | zero => simp only [evalOp, listThen, andThen]
  | succ f =>
    rcases evalOp B (f + 1) a vmi w with _ | ⟨_ | _, w1⟩ <;> simp only [listThen, andThen]
    cases rest with
    | nil => simp only [evalList]
    | cons b rest' => simp only []; rcases evalList B (f + 1) (b :: rest') vmi w1 with _ | ⟨_ | _, _⟩ <;> rfl

/-- an empty list of expressions: nothing to evaluate, but `evalList` wants one unit of fuel -/
theorem Agree.list_nil {f N : Nat} {c : Core} {vmi : Nat} {w : World} {g : Nat → List Val → World → Res}
    (h : Agree B f N c fun i => g i [] w) : Agree B f N c fun i => listThen (evalList B i [] vmi w) (g i) := by
  refine ⟨fun i hi => ?_, fun i hi x hx => ?_, .of_fuel_succ ?_⟩
  · cases i with
    | zero => simp only [evalList]; exact .of_none
    | succ j => simp only [evalList]; exact h.sound (j + 1) hi
  · cases i with
    | zero => simp [evalList, listThen] at hx
    | succ j => simp only [evalList] at hx ⊢; exact h.mono (j + 1) hi x hx
  · simp only [evalList]; exact h.covers.fuel_succ

section
variable {f N : Nat}

/-- `list` is stated for any values `done` already collected and any continuation `g` of the semantics, so that the tail
    of the list is an instance of the same statement (`list_agree` hands it to `ih.list`) and needs no induction of its own -/
structure Adequate (B : List Nat) (f N : Nat) : Prop where
  op : ∀ op vmi w, Agree B f N { ctl := .ev op vmi, k := [], w := w } fun i => evalOp B i op vmi w
  lines : ∀ l rest vmi w, Agree B f N { ctl := .ev l vmi, k := [.codeK rest vmi], w := w } fun i => evalLines B i l rest vmi w
  list : ∀ a rest vmi w (LF : ListFrame vmi) (done : List Val) (g : Nat → List Val → World → Res),
    (∀ vs w1, Agree B f N (LF.fin (done.reverse ++ vs) w1) fun i => g i vs w1) →
    Agree B f N { ctl := .ev a vmi, k := [LF.F done rest], w := w } fun i => listThen (evalList B i (a :: rest) vmi w) (g i)
  call : ∀ tf fn args w, Agree B f N (callVal tf fn args [] w) fun i => applyVal B i tf fn args w
  start : ∀ tf st w, Agree B f N (startCore st (iterNext tf) [] w) fun i => startThen B i tf st w
  iter : ∀ tf kind g src acc w, Agree B f N (iterNext tf kind g src acc [] w) fun i => iterate B i tf kind g src acc w

theorem lines_agree (ih : Adequate B f N) (l : Op) (rest : List Op) (vmi : Nat) (w : World) :
    Agree B (f + 1) (N + 1) { ctl := .ev l vmi, k := [.codeK rest vmi], w := w } fun i => evalLines B i l rest vmi w := by
  refine .of_fuel_succ (by rw [evalLines]) ?_
  simp only [evalLines]
  refine (ih.op l vmi w).andThen rfl (fun _ _ _ => rfl) fun v w1 => ?_
  cases rest with
  | nil => exact .finished (.ret v, w1)
  | cons l' rest' => exact ih.lines l' rest' vmi w1

theorem list_agree (ih : Adequate B f N) (a : Op) (rest : List Op) (vmi : Nat) (w : World) (LF : ListFrame vmi)
    (done : List Val) (g : Nat → List Val → World → Res)
    (hg : ∀ vs w1, Agree B (f + 1) (N + 1) (LF.fin (done.reverse ++ vs) w1) fun i => g i vs w1) :
    Agree B (f + 1) (N + 1) { ctl := .ev a vmi, k := [LF.F done rest], w := w } fun i =>
      listThen (evalList B i (a :: rest) vmi w) (g i) := by
  refine .of_fuel_succ (by rw [evalList]; rfl) ?_
  simp only [listThen_cons]
  refine (ih.op a vmi w).andThen rfl (LF.unw done rest) fun v w1 => ?_
  cases rest with
  -- `evalList` spends one unit of fuel on each element and the machine one step: what follows the list, given at
  -- `(f + 1, N + 1)`, is used one level down with its fuel shifted
  | nil => rw [LF.last]; simpa using (hg [v] w1).lower_steps.fuel_succ
  | cons b rest' =>
    rw [LF.next]
    exact ih.list b rest' vmi w1 LF (v :: done) _ fun vs w2 => by simpa using (hg (v :: vs) w2).lower_steps.fuel_succ

theorem iter_agree (ih : Adequate B f N) (tf : Nat) (kind : IterKind) (g : Val) (src : IterSrc) (acc : List Val) (w : World) :
    Agree B (f + 1) (N + 1) (iterNext tf kind g src acc [] w) fun i => iterate B i tf kind g src acc w := by
  refine .of_fuel_succ (by rw [iterate]) ?_
  cases tf with
  | zero => simp only [iterate]; exact .finished (.raise (.unmodelled "call-fuel"), w)
  | succ tf =>
    simp only [iterate]
    cases hn : nextItem w.heap src with
    | none => rw [iterNext_done _ _ _ _ _ _ _ hn]; exact .finished _
    | some p =>
      rw [iterNext_some _ _ _ _ _ _ _ _ _ hn]
      refine (ih.call tf g _ w).andThen (callVal_app_nil ..) (fun _ _ _ => rfl) fun v w1 => ?_
      rw [resume_iterK]
      exact ih.iter _ _ _ _ _ _

theorem start_agree (hiter : ∀ tf kind g src acc w,
      Agree B (f + 1) (N + 1) (iterNext tf kind g src acc [] w) fun i => iterate B i tf kind g src acc w)
    (tf : Nat) (st : Start) (w : World) :
    Agree B (f + 1) (N + 1) (startCore st (iterNext tf) [] w) fun i => startThen B i tf st w := by
  refine .of_fuel_succ (by rw [startThen]) ?_
  cases st with
  | now o w' => simp only [startThen]; exact .finished (o, w')
  | iter kind g src acc => simp only [startThen]; exact (hiter _ _ _ _ _ _).lower_fuel

theorem call_agree (ih : Adequate B f N) (hstart : ∀ tf st w,
      Agree B (f + 1) (N + 1) (startCore st (iterNext tf) [] w) fun i => startThen B i tf st w) :
    ∀ tf fn args w, Agree B (f + 1) (N + 1) (callVal tf fn args [] w) fun i => applyVal B i tf fn args w := by
  intro tf
  induction tf with
  | zero =>
    exact fun fn args w => .of_fuel_succ (by rw [applyVal]) (by simp only [applyVal]; exact .finished (.raise (.unmodelled "call-fuel"), w))
  | succ tf iht =>
    intro fn args w
    refine .of_fuel_succ (by rw [applyVal]) ?_
    simp only [applyVal_succ]
    rw [callVal_succ]
    cases callOf fn args w with
    | decided o w' => exact .finished (o, w')
    | body b vmi w' => exact (ih.op b vmi w').andAlways rfl fun o1 w1 => after_popScopeK vmi o1 [] w1
    -- the machine takes no step on the way to these two: runs of the same length, with one unit of fuel less
    | start st => exact (hstart _ _ _).lower_fuel
    | apply g rest => exact (iht _ _ _).lower_fuel
    | tryApply g rest => exact (ih.call tf g rest w).andAlways (callVal_app_nil ..) fun o1 w1 => after_tryK o1 [] w1

theorem doCall_agree (ih : Adequate B f N) (n : Name) (vs : List Val) (vmi : Nat) (w1 : World) :
    Agree B f N (doCall n vs vmi [] w1) fun i =>
      match w1.vm? vmi with
      | none => some (Out.raise (.unmodelled "vm"), w1)
      | some vm => match lookupName w1.heap vm.scopes n with
        | none => some (Out.raise (.parser "Undefined function"), w1)
        | some fn => applyVal B i callFuel fn vs w1 := by
  rw [doCall_eq]
  cases w1.vm? vmi with
  | none => exact .finished (.raise (.unmodelled "vm"), w1)
  | some vm =>
    simp only []
    cases lookupName w1.heap vm.scopes n with
    | none => exact .finished (.raise (.parser "Undefined function"), w1)
    | some fn => exact ih.call _ _ _ _

theorem op_agree (ih : Adequate B f N) (op : Op) (vmi : Nat) (w0 : World) :
    Agree B (f + 1) (N + 1) { ctl := .ev op vmi, k := [], w := w0 } fun i => evalOp B i op vmi w0 := by
  refine .of_fuel_succ (by rw [evalOp]) (.step (ev_not_underflow _ _ _ _) ?_)
  simp only [evalOp, stepCore_ev]
  cases charge w0 B vmi with
  | none => exact .finished (.raise (.unmodelled "vm"), w0)
  | some p =>
    obtain ⟨w, _ | m⟩ := p
    case some => exact .finished (.raise (.opsLimit m), w)
    simp only []
    have operand : ∀ (a : Op) (w : World) (fr : Frame) (g : Nat → Val → World → Res),
        (∀ e k w, unwind fr e k w = mkRaise e k w) → (∀ v w1, Agree B f N (resume fr v [] w1) fun i => g i v w1) →
        Agree B f N { ctl := .ev a vmi, k := [fr], w := w } fun i => andThen (evalOp B i a vmi w) (g i) :=
      fun a w fr g hu hk => ((ih.op a vmi w).andThen rfl hu hk).lower_steps
    cases op with
    | noop => exact .finished (.ret .none, w)
    | value l => cases l <;> exact .finished (.ret _, w)
    | code ls =>
      cases ls with
      | nil => exact .finished (.ret .none, w)
      | cons l rest => exact ih.lines _ _ _ _
    | bin bk a b =>
      refine operand a w (.binL bk b vmi) _ (fun _ _ _ => rfl) fun va w1 => ?_
      have strict : Agree B f N { ctl := .ev b vmi, k := [.binR bk va], w := w1 } fun i =>
          andThen (evalOp B i b vmi w1) fun vb w2 => some (binAct bk va vb w2) :=
        operand b w1 (.binR bk va) _ (fun _ _ _ => rfl) fun vb w2 => resume_binR bk va vb [] w2 ▸ .finished _
      cases bk
      case and =>
        simp only [resume]
        split
        · exact ih.op _ _ _
        · exact .finished (.ret va, w1)
      case or =>
        simp only [resume]
        split
        · exact .finished (.ret va, w1)
        · exact ih.op _ _ _
      all_goals exact strict
    | unary uk a =>
      exact operand a w (.unK uk) _ (fun _ _ _ => rfl) fun v w1 => resume_unK uk v [] w1 ▸ .finished _
    | assign n a =>
      exact operand a w (.assignK n vmi) _ (fun _ _ _ => rfl) fun v w1 => resume_assignK n vmi v [] w1 ▸ .finished _
    | short n sk a =>
      exact operand a w (.shortK n sk vmi) _ (fun _ _ _ => rfl) fun v w1 => resume_shortK n sk vmi v [] w1 ▸ .finished _
    | name n => exact enter_name n vmi [] w ▸ .finished _
    | ifx c a b =>
      refine operand c w (.ifK a b vmi) _ (fun _ _ _ => rfl) fun vc w1 => ?_
      simp only [resume]
      split <;> exact ih.op _ _ _
    | slice a b c =>
      refine operand a w (.sliceK [] [b, c] vmi) _ (fun _ _ _ => rfl) fun va w1 => ?_
      simp only [resume]
      cases safeCastInt va with
      | error e => exact .finished (.raise e, w1)
      | ok xa =>
        refine operand b w1 (.sliceK [xa] [c] vmi) _ (fun _ _ _ => rfl) fun vb w2 => ?_
        simp only [resume]
        cases safeCastInt vb with
        | error e => exact .finished (.raise e, w2)
        | ok xb =>
          refine operand c w2 (.sliceK [xb, xa] [] vmi) _ (fun _ _ _ => rfl) fun vc w3 => ?_
          simp only [resume]
          cases safeCastInt vc with
          | error e => exact .finished (.raise e, w3)
          | ok xc => exact .finished (.ret (.slice xa xb xc), w3)
    | call n args =>
      cases args with
      | nil => exact (doCall_agree ih n [] vmi w).list_nil
      | cons a rest => exact ih.list a rest vmi w (argsLF n vmi) [] _ fun vs w1 => doCall_agree ih n vs vmi w1
    | dict parts =>
      cases parts with
      | nil => exact (enter_dict_nil vmi [] w ▸ .finished _ : Agree B f N _ fun _ => some (dictAct [] w)).list_nil
      | cons a rest => exact ih.list a rest vmi w (dictLF vmi) [] _ fun vs w1 => .finished _
    | lambda ps body => exact .finished (.ret (.closure ps body vmi), w)

theorem adequate : ∀ k, Adequate B k k
  | 0 => ⟨fun _ _ _ => .zero, fun _ _ _ _ => .zero, fun _ _ _ _ _ _ _ _ => .zero, fun _ _ _ _ => .zero, fun _ _ _ => .zero,
          fun _ _ _ _ _ _ => .zero⟩
  | k + 1 =>
    have ih := adequate k
    have hiter := iter_agree ih
    have hstart := start_agree hiter
    { op := op_agree ih, lines := lines_agree ih, list := list_agree ih, call := call_agree ih hstart, start := hstart,
      iter := hiter }

end

structure Sound (B : List Nat) (f : Nat) : Prop where
  op : ∀ op vmi w o w', evalOp B f op vmi w = some (o, w') → Fin B { ctl := .ev op vmi, k := [], w := w } o w'
  lines : ∀ l rest vmi w o w', evalLines B f l rest vmi w = some (o, w') →
    Fin B { ctl := .ev l vmi, k := [.codeK rest vmi], w := w } o w'
  call : ∀ tf fn args w o w', applyVal B f tf fn args w = some (o, w') → Fin B (callVal tf fn args [] w) o w'
  start : ∀ tf st w o w', startThen B f tf st w = some (o, w') → Fin B (startCore st (iterNext tf) [] w) o w'
  iter : ∀ tf kind g src acc w o w', iterate B f tf kind g src acc w = some (o, w') →
    Fin B (iterNext tf kind g src acc [] w) o w'

theorem sound (f : Nat) : Sound B f where
  op := fun op vmi w _ _ => Agree.fin fun k => (adequate k).op op vmi w
  lines := fun l rest vmi w _ _ => Agree.fin fun k => (adequate k).lines l rest vmi w
  call := fun tf fn args w _ _ => Agree.fin fun k => (adequate k).call tf fn args w
  start := fun tf st w _ _ => Agree.fin fun k => (adequate k).start tf st w
  iter := fun tf kind g src acc w _ _ => Agree.fin fun k => (adequate k).iter tf kind g src acc w

theorem evalOp_sound (f : Nat) (op : Op) (vmi : Nat) (w : World) (o : Out) (w' : World)
    (h : evalOp B f op vmi w = some (o, w')) :
    ∃ n, run n { ctl := .ev op vmi, k := [], w := w, budgets := B } = { ctl := o.ctl, k := [], w := w', budgets := B } ∧
      ∀ i, i < n → ¬ Underflow (run i { ctl := .ev op vmi, k := [], w := w, budgets := B }).core :=
  (sound f).op op vmi w o w' h

theorem applyVal_sound (f tf : Nat) (fn : Val) (args : List Val) (w : World) (o : Out) (w' : World)
    (h : applyVal B f tf fn args w = some (o, w')) :
    ∃ n, run n ((callVal tf fn args [] w).withBudgets B) = { ctl := o.ctl, k := [], w := w', budgets := B } ∧
      ∀ i, i < n → ¬ Underflow (run i ((callVal tf fn args [] w).withBudgets B)).core :=
  (sound f).call tf fn args w o w' h

theorem evalOp_mono {f g : Nat} (hfg : f ≤ g) {op : Op} {vmi : Nat} {w : World} {r : Out × World}
    (h : evalOp B f op vmi w = some r) : evalOp B g op vmi w = some r :=
  Agree.mono_le (fun k => (adequate k).op op vmi w) hfg h

theorem evalOp_fuel_irrelevant (f1 f2 : Nat) (op : Op) (vmi : Nat) (w : World) (r1 r2 : Out × World)
    (h1 : evalOp B f1 op vmi w = some r1) (h2 : evalOp B f2 op vmi w = some r2) : r1 = r2 := by
  rcases Nat.le_total f1 f2 with h | h
  · exact Option.some.inj ((evalOp_mono h h1).symm.trans h2)
  · exact Option.some.inj (h1.symm.trans (evalOp_mono h h2))

theorem evalOp_complete (op : Op) (vmi : Nat) (w : World) (n : Nat) (o : Out) (w' : World)
    (h : run n { ctl := .ev op vmi, k := [], w := w, budgets := B } = { ctl := o.ctl, k := [], w := w', budgets := B })
    (hu : ∀ i, i < n → ¬ Underflow (run i { ctl := .ev op vmi, k := [], w := w, budgets := B }).core) :
    ∃ f, evalOp B f op vmi w = some (o, w') :=
  Agree.complete (fun k => (adequate k).op op vmi w) ⟨h, hu⟩

def Out.halt : Out → Ctl
  | .ret v => .done v
  | .raise e => .failed e

theorem run_halted_stable (c : Cfg) (h : c.halted = true) : ∀ n, run n c = c := by
  intro n
  induction n with
  | zero => rfl
  | succ n ih =>
    rw [run]
    have : step c = c := by
      obtain ⟨ctl, k, w, b⟩ := c
      cases ctl <;> simp [Cfg.halted] at h <;> rfl
    rw [this, ih]

theorem fin_then_halts {c : Cfg} {o : Out} {w' : World} {n : Nat}
    (h : run n c = { ctl := o.ctl, k := [], w := w', budgets := c.budgets }) (m : Nat) :
    run (n + 1 + m) c = { ctl := o.halt, k := [], w := w', budgets := c.budgets } := by
  rw [run_add', run_add', h]
  have e1 : run 1 { ctl := o.ctl, k := [], w := w', budgets := c.budgets } =
      { ctl := o.halt, k := [], w := w', budgets := c.budgets } := by
    cases o <;> rfl
  rw [e1]
  exact run_halted_stable _ (by cases o <;> rfl) m

theorem eval_call_sound (f : Nat) (w : World) (bs : List Nat) (namesAddr budget : Nat) (ast : Op) (o : Out) (w' : World)
    (h : evalOp (bs ++ [budget]) f ast w.vms.length
          { w with vms := w.vms ++ [{ scopes := [namesAddr], ops := 0 }] } = some (o, w')) :
    ∃ n, ∀ m, run (n + 1 + m) (initCfg w bs namesAddr budget ast) =
      { ctl := o.halt, k := [], w := w', budgets := bs ++ [budget] } := by
  obtain ⟨n, e, _⟩ := evalOp_sound (B := bs ++ [budget]) f ast _ _ o w' h
  exact ⟨n, fun m => fin_then_halts (c := initCfg w bs namesAddr budget ast) e m⟩

end Sq.Den
