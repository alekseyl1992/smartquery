/-
  What the parser functions return, with whatever fuel (`PSpec`, by induction on the fuel, one step lemma per function):
  an accepted input is derived by the levelled relation with exactly the returned tree; a reported syntax error carries a
  suffix of the token list (the offending token and what follows, or nothing at the end of the input), a reserved-word
  or number error a token of it; nothing is claimed of `.fuel`.  Likewise `pStatement`, `pCode`, `parseTokens`.
-/
import SqLemmas.ParseInduct
namespace Sq

abbrev Sfx (ts tl : List Token) : Prop := ∃ pre, ts = pre ++ tl

theorem Sfx.refl (ts : List Token) : Sfx ts ts := ⟨[], rfl⟩
theorem Sfx.trans {a b c : List Token} (h1 : Sfx a b) (h2 : Sfx b c) : Sfx a c := by
  obtain ⟨p, hp⟩ := h1; obtain ⟨q, hq⟩ := h2
  exact ⟨p ++ q, by rw [hp, hq, List.append_assoc]⟩
theorem Sfx.cons (t : Token) (ts : List Token) : Sfx (t :: ts) ts := ⟨[t], rfl⟩

def ErrOK (ts : List Token) : PErr → Prop
  | .syn rest => ∃ pre, ts = pre ++ rest
  | .res t => t ∈ ts
  | .badnum t => t ∈ ts
  | .fuel => True

theorem errOK_mono {ts tl : List Token} {e : PErr} (hs : Sfx ts tl) (he : ErrOK tl e) : ErrOK ts e := by
  obtain ⟨pre, h⟩ := hs
  cases e with
  | syn rest => obtain ⟨p, hp⟩ := he; exact ⟨pre ++ p, by rw [h, hp, List.append_assoc]⟩
  | res t => rw [h]; exact List.mem_append_right _ he
  | badnum t => rw [h]; exact List.mem_append_right _ he
  | fuel => trivial

theorem errOK_self (ts : List Token) : ErrOK ts (.syn ts) := ⟨[], rfl⟩
theorem errOK_nil (ts : List Token) : ErrOK ts (.syn []) := ⟨ts, by simp⟩

theorem eat_inv {ty : Tk} {ts : List Token} {t : Token} {r : List Token} (h : eat ty ts = .ok (t, r)) :
    ts = t :: r ∧ t.ty = ty := by
  cases ts with
  | nil => cases h
  | cons x xs =>
    simp only [eat] at h
    split at h
    · injection h with h; injection h with h1 h2; subst h1; subst h2; exact ⟨rfl, ‹_›⟩
    · cases h

theorem eat_err {ty : Tk} {ts : List Token} {e : PErr} (h : eat ty ts = .error e) : ErrOK ts e := by
  cases ts with
  | nil => simp only [eat] at h; cases h; exact errOK_nil _
  | cons x xs =>
    simp only [eat] at h
    split at h
    · cases h
    · cases h; exact errOK_self _

theorem peek_inv {ts : List Token} {ty : Tk} (h : peekTy ts = some ty) : ∃ t r, ts = t :: r ∧ t.ty = ty := by
  cases ts with
  | nil => cases h
  | cons t r => exact ⟨t, r, rfl, by rw [peekTy_cons] at h; injection h⟩

/-- the last branch of `pLoop` takes `|` without having tested for it -/
theorem take_is_pipe {m : Nat} {a : Assoc} {ty : Tk} {l : Nat} {la : Assoc} (h : decide' m a ty = .take l la)
    (hb : binKind ty = none) (h1 : ty ≠ .NOT) (h2 : ty ≠ .IF) (h3 : ty ≠ .LBRACKET) (h4 : ty ≠ .DOT) : ty = .PIPE := by
  unfold decide' at h
  split at h
  · cases h
  · rename_i ho
    unfold opLevel at ho
    simp [hb, h1, h2, h3, h4] at ho
    exact ho.1

/-- The post-condition of a parser function run on `ts`, for both outcomes: an accepted input has a prefix `ts0` that
    the relation derives (`R x ts0 tl` for the returned `x`, with `tl` what is left over); an error satisfies `ErrOK ts`. -/
def Res {α : Type} (R : α → List Token → List Token → Prop) (ts : List Token) : PR α → Prop
  | .ok (x, tl) => ∃ ts0, ts = ts0 ++ tl ∧ R x ts0 tl
  | .error e => ErrOK ts e

theorem Res.ok {α : Type} {R : α → List Token → List Token → Prop} {ts : List Token} {p : PR α} {x : α}
    {tl : List Token} (h : Res R ts p) (e : p = .ok (x, tl)) : ∃ ts0, ts = ts0 ++ tl ∧ R x ts0 tl := by
  subst e; exact h

theorem Res.err {α : Type} {R : α → List Token → List Token → Prop} {ts : List Token} {p : PR α} {er : PErr}
    (h : Res R ts p) (e : p = .error er) : ErrOK ts er := by
  subst e; exact h

theorem Res.sfx {α : Type} {R : α → List Token → List Token → Prop} {ts : List Token} {p : PR α} {x : α}
    {tl : List Token} (h : Res R ts p) (e : p = .ok (x, tl)) : Sfx ts tl := by
  obtain ⟨ts0, e0, _⟩ := h.ok e; exact ⟨ts0, e0⟩

/- `Sfx ts r` as the path to a stage of a parser function: the stage runs on `r`, what the earlier stages left of the
   input `ts`.  `.eaten`, `.tail`, `.ok` lead past one more stage; `.eatErr`, `.err` end at the stage that fails, whose
   error then is one of `ts`. -/

theorem Sfx.eaten {ts r r' : List Token} {ty : Tk} {t : Token} (hs : Sfx ts r) (h : eat ty r = .ok (t, r')) : Sfx ts r' :=
  hs.trans ⟨[t], (eat_inv h).1⟩

theorem Sfx.tail {ts r : List Token} (hs : Sfx ts r) : Sfx ts r.tail :=
  hs.trans (match r with | [] => ⟨[], rfl⟩ | t :: _ => ⟨[t], rfl⟩)

theorem Sfx.ok {α : Type} {R : α → List Token → List Token → Prop} {ts r r' : List Token} {p : PR α} {x : α}
    (hs : Sfx ts r) (hp : Res R r p) (e : p = .ok (x, r')) : Sfx ts r' := hs.trans (hp.sfx e)

theorem Sfx.eatErr {α : Type} {R : α → List Token → List Token → Prop} {ts r : List Token} {ty : Tk} {e : PErr}
    (hs : Sfx ts r) (h : eat ty r = .error e) : Res R ts (.error e : PR α) := errOK_mono hs (eat_err h)

theorem Sfx.err {α β : Type} {R : α → List Token → List Token → Prop} {R' : β → List Token → List Token → Prop}
    {ts r : List Token} {p : PR β} {e : PErr} (hs : Sfx ts r) (hp : Res R' r p) (h : p = .error e) :
    Res R ts (.error e : PR α) := errOK_mono hs (hp.err h)

theorem Res.after {α : Type} {R R' : α → List Token → List Token → Prop} {ts ts' : List Token} {p : PR α}
    (pre : List Token) (hts : ts = pre ++ ts') (h : Res R' ts' p)
    (hR : ∀ x ts0 tl, ts' = ts0 ++ tl → R' x ts0 tl → R x (pre ++ ts0) tl) : Res R ts p := by
  match p, h with
  | .ok (x, tl), ⟨ts0, e, r⟩ => exact ⟨pre ++ ts0, by rw [hts, e, List.append_assoc], hR x ts0 tl e r⟩
  | .error er, h => exact errOK_mono ⟨pre, hts⟩ h

structure PSpec (f : Nat) : Prop where
  expr : ∀ m a ts, Res (fun r ts0 tl => RExpr m a ts0 r.1 r.2 (peekTy tl)) ts (pExpr f m a ts)
  loop : ∀ m a l b0 ts, Res (fun r ts0 tl => RSpine m a l b0 ts0 r.1 r.2 (peekTy tl)) ts (pLoop f m a l b0 ts)
  args : ∀ close ts, Res (fun out ts0 _ => RArgs close ts0 out) ts (pArgs f close ts)
  argsTail : ∀ close acc ts, Res (fun out ts0 _ => RArgsTail close acc ts0 out) ts (pArgsTail f close acc ts)
  dict : ∀ acc ts, Res (fun out ts0 _ => RDict acc ts0 out) ts (pDictItems f acc ts)
  params : ∀ acc ts, Res (fun out ts0 _ => RParams acc ts0 out) ts (pParams f acc ts)
  sub : ∀ ts, Res (fun r ts0 _ => RSub ts0 r.1 r.2) ts (pSubscript f ts)
  pre : ∀ ts, Res (fun t ts0 tl => RPrim ts0 t (peekTy tl)) ts (pPrefix f ts)

theorem PSpec.expr_upto {f m : Nat} (P : PSpec f) {a : Assoc} {ts r : List Token} {x : Op} {b : Bool} {t : Token} {ty : Tk}
    (he : pExpr f m a ts = .ok ((x, b), t :: r)) (ht : t.ty = ty) :
    ∃ ts0, ts = ts0 ++ t :: r ∧ RExpr m a ts0 x b (some ty) :=
  ht ▸ (P.expr m a ts).ok he

theorem spec_zero : PSpec 0 := by
  constructor <;> intros <;> simp only [parser_zero] <;> trivial

theorem pExpr_step {f : Nat} (P : PSpec f) (m : Nat) (a : Assoc) (ts : List Token) :
    Res (fun r ts0 tl => RExpr m a ts0 r.1 r.2 (peekTy tl)) ts (pExpr (f + 1) m a ts) := by
  rw [pExpr]
  split
  · rename_i hp; exact (P.pre ts).err hp
  · rename_i lhs ts' hp
    obtain ⟨ts1, e1, r1⟩ := (P.pre ts).ok hp
    refine (P.loop m a lhs false ts').after ts1 e1 fun r ts2 tl e2 r2 => ?_
    rw [e2, peekTy_append] at r1
    exact .mk r1 r2

/- The step lemmas below open with `fun_cases`: one goal per branch of the parser function, the branch conditions and
   the results of the sub-parsers as hypotheses, the call replaced by what the branch returns.  The fuel is generalised
   first because `fun_cases` wants variables as arguments; `cases hn` puts `f` back and removes the branch without fuel.
   It also moves the hypotheses that mention the fuel (results of sub-parsers) behind the others. -/

theorem pLoop_step {f : Nat} (P : PSpec f) (m : Nat) (a : Assoc) (l : Op) (b0 : Bool) (ts : List Token) :
    Res (fun r ts0 tl => RSpine m a l b0 ts0 r.1 r.2 (peekTy tl)) ts (pLoop (f + 1) m a l b0 ts) := by
  generalize hn : f + 1 = n
  fun_cases pLoop n m a l b0 ts <;> cases hn
  · exact ⟨[], rfl, .nil trivial⟩
  · rename_i hd; exact ⟨[], rfl, .nil hd⟩
  · exact errOK_self _
  -- binary operator
  · rename_i he
    exact Sfx.cons _ _ |>.err (P.expr _ _ _) he
  · rename_i o rest lv la k hk rhs br ts' hd he
    obtain ⟨ts1, e1, r1⟩ := (P.expr _ _ _).ok he
    refine (P.loop m a _ false ts').after (o :: ts1) (by rw [e1]; rfl) fun r ts2 tl e2 r2 => ?_
    rw [e2, peekTy_append] at r1
    exact .bin hd hk r1 r2
  -- not in
  · rename_i hi hd
    exact Sfx.cons _ _ |>.eatErr hi
  · rename_i hi e hd he
    exact Sfx.cons _ _ |>.eaten hi |>.err (P.expr _ _ _) he
  · rename_i o rest lv la hk hnot i r2 hi rhs br ts' hd he
    obtain ⟨rfl, hity⟩ := eat_inv hi
    obtain ⟨ts1, e1, r1⟩ := (P.expr _ _ _).ok he
    refine (P.loop m a _ false ts').after (o :: i :: ts1) (by rw [e1]; rfl) fun r ts2 tl e2 r2' => ?_
    rw [e2, peekTy_append] at r1
    rw [hnot] at hd
    exact .notin hnot hd hity r1 r2'
  -- conditional
  · rename_i he
    exact Sfx.cons _ _ |>.err (P.expr _ _ _) he
  · rename_i hel hd hc
    exact Sfx.cons _ _ |>.ok (P.expr _ _ _) hc |>.eatErr hel
  · rename_i hel e hd hc he2
    exact Sfx.cons _ _ |>.ok (P.expr _ _ _) hc |>.eaten hel |>.err (P.expr _ _ _) he2
  · rename_i o rest lv la hk hnn hif c bc r2 el r3 hel e2 be ts' hd hc he2
    obtain ⟨rfl, helty⟩ := eat_inv hel
    obtain ⟨ts1, e1, r1⟩ := P.expr_upto hc helty
    obtain ⟨ts3, e3, r3'⟩ := (P.expr _ _ _).ok he2
    refine (P.loop m a _ false ts').after (o :: ts1 ++ el :: ts3) (by rw [e1, e3]; simp) fun r ts4 tl e4 r4 => ?_
    rw [e4, peekTy_append] at r3'
    rw [hif] at hd
    exact .ifx hif hd r1 helty r3' r4
  -- subscript
  · rename_i hs
    exact Sfx.cons _ _ |>.err (P.sub _) hs
  · rename_i o rest lv la hk hnn hnif hlb k plain ts' hd hs
    obtain ⟨ts1, e1, r1⟩ := (P.sub _).ok hs
    refine (P.loop m a _ plain ts').after (o :: ts1) (by rw [e1]; rfl) fun r ts2 tl e2 r2 => ?_
    rw [hlb] at hd
    exact .index hlb hd r1 r2
  -- method call
  · rename_i hn hd
    exact Sfx.cons _ _ |>.eatErr hn
  · rename_i hn e hlp hd
    exact Sfx.cons _ _ |>.eaten hn |>.eatErr hlp
  · rename_i o rest lv la hk hnn hnif hnlb hdot n r2 hn lp r3 hlp hrp hd
    obtain ⟨rfl, hnty⟩ := eat_inv hn
    obtain ⟨rfl, hlpty⟩ := eat_inv hlp
    obtain ⟨rp, r4, rfl, hrpty⟩ := peek_inv hrp
    rw [hdot] at hd
    exact (P.loop m a _ false r4).after [o, n, lp, rp] rfl fun r ts2 tl e2 r2' => .dot0 hdot hd hnty hlpty hrpty r2'
  · rename_i hn lp r3 hlp hnrp e hd ha
    exact Sfx.cons _ _ |>.eaten hn |>.eaten hlp |>.err (P.args _ _) ha
  · rename_i o rest lv la hk hnn hnif hnlb hdot n r2 hn lp r3 hlp hnrp args ts' hd ha
    obtain ⟨rfl, hnty⟩ := eat_inv hn
    obtain ⟨rfl, hlpty⟩ := eat_inv hlp
    obtain ⟨ts1, e1, r1⟩ := (P.args _ _).ok ha
    rw [hdot] at hd
    exact (P.loop m a _ false ts').after (o :: n :: lp :: ts1) (by rw [e1]; rfl) fun r ts2 tl e2 r2' =>
      .dot hdot hd hnty hlpty r1 r2'
  -- pipe
  · rename_i hn hd
    exact Sfx.cons _ _ |>.eatErr hn
  · rename_i hn hlp e hd ha
    exact Sfx.cons _ _ |>.eaten hn |>.tail |>.err (P.args _ _) ha
  · rename_i o rest lv la hk hnn hnif hnlb hndot n r2 hn hlp args ts' hd ha
    have hpipe := take_is_pipe hd hk hnn hnif hnlb hndot
    obtain ⟨rfl, hnty⟩ := eat_inv hn
    obtain ⟨lp, r3, rfl, hlpty⟩ := peek_inv hlp
    obtain ⟨ts1, e1, r1⟩ := (P.args _ _).ok ha
    rw [List.tail_cons] at e1
    rw [hpipe] at hd
    exact (P.loop m a _ false ts').after (o :: n :: lp :: ts1) (by rw [e1]; rfl) fun r ts2 tl e2 r2' =>
      .pipe hpipe hd hnty hlpty r1 r2'
  · rename_i o rest lv la hk hnn hnif hnlb hndot n r2 hn hnlp hd
    have hpipe := take_is_pipe hd hk hnn hnif hnlb hndot
    obtain ⟨rfl, hnty⟩ := eat_inv hn
    rw [hpipe] at hd
    refine (P.loop m a _ false r2).after [o, n] rfl fun r ts2 tl e2 r2' => ?_
    rw [e2, peekTy_append] at hnlp
    exact .pipe0 hpipe hd hnty hnlp r2'

theorem pArgs_step {f : Nat} (P : PSpec f) (close : Tk) (ts : List Token) :
    Res (fun out ts0 _ => RArgs close ts0 out) ts (pArgs (f + 1) close ts) := by
  rw [pArgs]
  split
  · rename_i he; exact (P.expr _ _ ts).err he
  · rename_i x bx ts' he
    obtain ⟨ts1, e1, r1⟩ := (P.expr _ _ ts).ok he
    refine (P.argsTail close [x] ts').after ts1 e1 fun out ts2 tl e2 r2 => ?_
    rw [e2, peekTy_append_ne _ _ (rargsTail_ne r2)] at r1
    exact .mk r1 r2

theorem pArgsTail_step {f : Nat} (P : PSpec f) (close : Tk) (acc : List Op) (ts : List Token) :
    Res (fun out ts0 _ => RArgsTail close acc ts0 out) ts (pArgsTail (f + 1) close acc ts) := by
  generalize hn : f + 1 = n
  fun_cases pArgsTail n close acc ts <;> cases hn
  · exact errOK_nil _
  · rename_i t rest hcm hcl
    obtain ⟨c, r, rfl, hc⟩ := peek_inv hcl
    exact ⟨[t, c], rfl, .trailing hcm hc⟩
  · rename_i rest hcm e hncl he
    exact Sfx.cons _ _ |>.err (P.expr _ _ rest) he
  · rename_i t rest hcm x bx ts' hncl he
    obtain ⟨ts1, e1, r1⟩ := (P.expr _ _ rest).ok he
    refine (P.argsTail close (x :: acc) ts').after (t :: ts1) (by rw [e1]; rfl) fun out ts2 tl e2 r2 => ?_
    have hne := rargsTail_ne r2
    rw [e2, peekTy_append_ne _ _ hne] at r1
    refine .more hcm ?_ r1 r2
    rw [e1, e2, ← List.append_assoc, peekTy_append_ne _ _ (by simp [hne])] at hncl
    exact hncl
  · rename_i t rest hncm
    exact ⟨[t], rfl, .close rfl hncm⟩
  · exact errOK_self _

theorem pDictItems_step {f : Nat} (P : PSpec f) (acc : List Op) (ts : List Token) :
    Res (fun out ts0 _ => RDict acc ts0 out) ts (pDictItems (f + 1) acc ts) := by
  generalize hn : f + 1 = n
  fun_cases pDictItems n acc ts <;> cases hn
  · rename_i hk; exact (P.expr _ _ ts).err hk
  · rename_i hcol hk
    exact (P.expr _ _ _).sfx hk |>.eatErr hcol
  · rename_i hcol e hv hk
    exact (P.expr _ _ _).sfx hk |>.eaten hcol |>.err (P.expr _ _ _) hv
  · exact errOK_nil _
  · rename_i col r2 hcol v bv t rest hrb acc' hv hk
    obtain ⟨rfl, hcolty⟩ := eat_inv hcol
    obtain ⟨tsk, ek, rk⟩ := P.expr_upto hk hcolty
    obtain ⟨tsv, ev, rv⟩ := P.expr_upto hv hrb
    exact ⟨tsk ++ col :: tsv ++ [t], by rw [ek, ev]; simp, .last rk hcolty rv hrb⟩
  · rename_i col r2 hcol v bv t rest hnrb hcm hpk acc' hv hk
    obtain ⟨rfl, hcolty⟩ := eat_inv hcol
    obtain ⟨tsk, ek, rk⟩ := P.expr_upto hk hcolty
    obtain ⟨tsv, ev, rv⟩ := P.expr_upto hv hcm
    obtain ⟨rb, r4, rfl, hrbty⟩ := peek_inv hpk
    exact ⟨tsk ++ col :: tsv ++ [t, rb], by rw [ek, ev]; simp, .lastComma rk hcolty rv hcm hrbty⟩
  · rename_i col r2 hcol v bv t rest hnrb hcm hnpk acc' hv hk
    obtain ⟨rfl, hcolty⟩ := eat_inv hcol
    obtain ⟨tsk, ek, rk⟩ := P.expr_upto hk hcolty
    obtain ⟨tsv, ev, rv⟩ := P.expr_upto hv hcm
    refine (P.dict acc' rest).after (tsk ++ col :: tsv ++ [t]) (by rw [ek, ev]; simp) fun out ts4 tl e4 r4 => ?_
    rw [List.append_assoc (tsk ++ col :: tsv)]
    refine .more rk hcolty rv hcm (fun hc => hnpk ?_) r4
    have hne : ts4 ≠ [] := by cases r4 <;> simp
    rw [e4, peekTy_append_ne _ _ hne]
    exact hc
  · rename_i hcol v bv t rest hnrb hncm hv hk
    exact errOK_mono ((P.expr _ _ _).sfx hk |>.eaten hcol |>.ok (P.expr _ _ _) hv) (errOK_self _)

theorem pParams_step {f : Nat} (P : PSpec f) (acc : List Op) (ts : List Token) :
    Res (fun out ts0 _ => RParams acc ts0 out) ts (pParams (f + 1) acc ts) := by
  cases hs : startsNameRparen ts with
  | true =>
    match ts, hs with
    | n :: r :: rest, hs =>
      have hc : n.ty = .NAME ∧ r.ty = .RPAREN := by simpa [startsNameRparen] using hs
      rw [pParams, if_pos hc]
      exact ⟨[n, r], rfl, .last hc.1 hc.2⟩
  | false =>
    rw [pParams_more f acc ts hs]
    split
    · rename_i he; exact (P.expr _ _ ts).err he
    · rename_i x bx r1 he
      split
      · rename_i hcm; exact (P.expr _ _ ts).sfx he |>.eatErr hcm
      · rename_i cm r2 hcm
        obtain ⟨rfl, hcmty⟩ := eat_inv hcm
        obtain ⟨ts1, e1, d1⟩ := P.expr_upto he hcmty
        refine (P.params (x :: acc) r2).after (ts1 ++ [cm]) (by rw [e1]; simp) fun out ts2 tl e2 d2 => ?_
        rw [List.append_assoc]
        refine .more ?_ d1 hcmty d2
        -- the two-token test sees the same two tokens
        obtain ⟨y, r, rfl, _⟩ := rexpr_head d1
        rw [e1] at hs
        cases r with
        | nil => simp [startsNameRparen, hcmty]
        | cons z r => simpa [startsNameRparen] using hs

theorem pSubscript_step {f : Nat} (P : PSpec f) (ts : List Token) :
    Res (fun r ts0 _ => RSub ts0 r.1 r.2) ts (pSubscript (f + 1) ts) := by
  generalize hn : f + 1 = n
  fun_cases pSubscript n ts <;> cases hn
  -- `:` first
  · rename_i hc1 r1 hrb
    obtain ⟨c1, r, rfl, h1⟩ := peek_inv hc1
    obtain ⟨rb, r2, rfl, hr⟩ := peek_inv (ts := r) hrb
    exact ⟨[c1, rb], rfl, .all h1 hr⟩
  · rename_i he
    exact Sfx.refl ts |>.tail |>.tail |>.err (P.expr _ _ _) he
  · rename_i hb hc1 r1 hnrb hc2 he
    exact Sfx.refl ts |>.tail |>.tail |>.ok (P.expr _ _ _) he |>.eatErr hb
  · rename_i rb r4 hb hc1 r1 hnrb hc2 he
    obtain ⟨c1, r, rfl, h1⟩ := peek_inv hc1
    obtain ⟨c2, r', rfl, h2⟩ := peek_inv (ts := r) hc2
    obtain ⟨rfl, hr⟩ := eat_inv hb
    obtain ⟨ts1, (rfl : r' = _), d1⟩ := P.expr_upto he hr
    exact ⟨c1 :: c2 :: ts1 ++ [rb], by simp, .step h1 h2 d1 hr⟩
  · rename_i he
    exact Sfx.refl ts |>.tail |>.err (P.expr _ _ _) he
  · rename_i hb hc1 r1 hnrb hnc2 he
    exact Sfx.refl ts |>.tail |>.ok (P.expr _ _ _) he |>.tail |>.eatErr hb
  · rename_i hcol rb r4 hb hc1 r1 hnrb hnc2 he
    obtain ⟨c1, r, rfl, h1⟩ := peek_inv hc1
    obtain ⟨c2, r3, rfl, h2⟩ := peek_inv hcol
    obtain ⟨rfl, hr⟩ := eat_inv hb
    obtain ⟨ts1, (rfl : r = _), d1⟩ := P.expr_upto he h2
    exact ⟨c1 :: ts1 ++ [c2, rb], by simp, .stopColon h1 d1 h2 hr⟩
  · rename_i hb hc1 r1 hnrb hnc2 he
    exact Sfx.refl ts |>.tail |>.ok (P.expr _ _ _) he |>.eatErr hb
  · rename_i rb r4 hb hc1 r1 hnrb hnc2 he
    obtain ⟨c1, r, rfl, h1⟩ := peek_inv hc1
    obtain ⟨rfl, hr⟩ := eat_inv hb
    obtain ⟨ts1, (rfl : r = _), d1⟩ := P.expr_upto he hr
    exact ⟨c1 :: ts1 ++ [rb], by simp, .stop h1 d1 hr⟩
  -- an expression first
  · rename_i he; exact (P.expr _ _ ts).err he
  · rename_i hrb hnc he
    obtain ⟨rb, r2, rfl, hr⟩ := peek_inv hrb
    obtain ⟨ts1, rfl, d1⟩ := P.expr_upto he hr
    exact ⟨ts1 ++ [rb], by simp, .idx d1 hr⟩
  · rename_i hcol hnc he
    exact (P.expr _ _ _).sfx he |>.eatErr hcol
  · rename_i c r2 hcol hrb hnc he
    obtain ⟨rfl, hc⟩ := eat_inv hcol
    obtain ⟨rb, r3, rfl, hr⟩ := peek_inv hrb
    obtain ⟨ts1, rfl, d1⟩ := P.expr_upto he hc
    exact ⟨ts1 ++ [c, rb], by simp, .start d1 hc hr⟩
  · rename_i hcol hnrb2 hc2 e hb hnc he
    exact (P.expr _ _ _).sfx he |>.eaten hcol |>.tail |>.eatErr hb
  · rename_i c r2 hcol hnrb2 hc2 rb r4 hb hnc he
    obtain ⟨rfl, hc⟩ := eat_inv hcol
    obtain ⟨c2, r3, rfl, h2⟩ := peek_inv hc2
    obtain ⟨rfl, hr⟩ := eat_inv hb
    obtain ⟨ts1, rfl, d1⟩ := P.expr_upto he hc
    exact ⟨ts1 ++ [c, c2, rb], by simp, .startColon d1 hc h2 hr⟩
  · rename_i hcol hnrb2 hnc2 e hnc he2 he
    exact (P.expr _ _ _).sfx he |>.eaten hcol |>.err (P.expr _ _ _) he2
  · rename_i hcol hnrb2 hnc2 x2 bx2 ts2 e hb hnc he2 he
    exact (P.expr _ _ _).sfx he |>.eaten hcol |>.ok (P.expr _ _ _) he2 |>.eatErr hb
  · rename_i c r2 hcol hnrb2 hnc2 x2 bx2 ts2 rb r4 hb hnc he2 he
    obtain ⟨rfl, hc⟩ := eat_inv hcol
    obtain ⟨rfl, hr⟩ := eat_inv hb
    obtain ⟨ts1, rfl, d1⟩ := P.expr_upto he hc
    obtain ⟨ts3, rfl, d2⟩ := P.expr_upto he2 hr
    exact ⟨ts1 ++ c :: ts3 ++ [rb], by simp, .startStop d1 hc d2 hr⟩

theorem pPrefix_step {f : Nat} (P : PSpec f) (ts : List Token) :
    Res (fun t ts0 tl => RPrim ts0 t (peekTy tl)) ts (pPrefix (f + 1) ts) := by
  generalize hn : f + 1 = n
  fun_cases pPrefix n ts <;> cases hn
  · exact errOK_nil _
  -- reserved words
  · exact List.mem_cons_self
  · exact Sfx.cons _ _
  -- literals
  · rename_i t rest hnres hty d hd
    exact ⟨[t], rfl, .atom (by simp [atomOf, hty, hd])⟩
  · exact List.mem_cons_self
  · rename_i t rest hnres hty; exact ⟨[t], rfl, .atom (by simp [atomOf, hty])⟩
  · rename_i t rest hnres hty; exact ⟨[t], rfl, .atom (by simp [atomOf, hty])⟩
  · rename_i t rest hnres hty; exact ⟨[t], rfl, .atom (by simp [atomOf, hty])⟩
  · rename_i t rest hnres hty; exact ⟨[t], rfl, .atom (by simp [atomOf, hty])⟩
  -- NAME
  · rename_i t rest hnres hty hlp r1 hrp
    obtain ⟨lp, r, rfl, hl⟩ := peek_inv hlp
    obtain ⟨rp, r2, rfl, hr⟩ := peek_inv (ts := r) hrp
    exact ⟨[t, lp, rp], rfl, .call0 hty hl hr⟩
  · rename_i ha
    exact Sfx.cons _ _ |>.tail |>.err (P.args _ _) ha
  · rename_i t rest hnres hty hlp r1 hnrp args ts' ha
    obtain ⟨lp, r, rfl, hl⟩ := peek_inv hlp
    obtain ⟨ts1, (rfl : r = _), d1⟩ := (P.args _ _).ok ha
    exact ⟨t :: lp :: ts1, rfl, .call hty hl d1⟩
  · rename_i he
    exact Sfx.cons _ _ |>.tail |>.err (P.expr _ _ _) he
  · rename_i t rest hnres hty hnlp hlam b bb ts' he
    obtain ⟨lam, r, rfl, hl⟩ := peek_inv hlam
    obtain ⟨ts1, (rfl : r = _), d1⟩ := (P.expr _ _ _).ok he
    exact ⟨t :: lam :: ts1, rfl, .lam1 hty hl d1⟩
  · rename_i t rest hnres hty hnlp hnlam
    exact ⟨[t], rfl, .name hty hnlp hnlam⟩
  -- `(`
  · rename_i he
    exact Sfx.cons _ _ |>.err (P.expr _ _ _) he
  · rename_i t rest hnres hty x bx ts' hrp he
    obtain ⟨rp, r2, rfl, hr⟩ := peek_inv hrp
    obtain ⟨ts1, rfl, d1⟩ := P.expr_upto he hr
    exact ⟨t :: ts1 ++ [rp], by simp, .paren hty d1 hr⟩
  · rename_i hcm he
    exact Sfx.cons _ _ |>.ok (P.expr _ _ _) he |>.eatErr hcm
  · rename_i hcm e he hp
    exact Sfx.cons _ _ |>.ok (P.expr _ _ _) he |>.eaten hcm |>.err (P.params _ _) hp
  · rename_i hcm ps ts' e hlam he hp
    exact Sfx.cons _ _ |>.ok (P.expr _ _ _) he |>.eaten hcm |>.ok (P.params _ _) hp |>.eatErr hlam
  · rename_i hcm ps ts' lam r2 hlam e he hp hb
    exact Sfx.cons _ _ |>.ok (P.expr _ _ _) he |>.eaten hcm |>.ok (P.params _ _) hp |>.eaten hlam |>.err (P.expr _ _ _) hb
  · rename_i t rest hnres hty x bx ts2' hnrp cm r2' hcm ps ts1' lam r2 hlam body bb ts' he hp hb
    obtain ⟨rfl, hcmty⟩ := eat_inv hcm
    obtain ⟨rfl, hlamty⟩ := eat_inv hlam
    obtain ⟨ts1, rfl, d1⟩ := P.expr_upto he hcmty
    obtain ⟨ts2, rfl, d2⟩ := (P.params _ _).ok hp
    obtain ⟨ts3, rfl, d3⟩ := (P.expr _ _ _).ok hb
    exact ⟨t :: ts1 ++ cm :: ts2 ++ lam :: ts3, by simp, .lamN hty d1 hcmty d2 hlamty d3⟩
  -- `[`
  · rename_i t rest hnres hty hrb
    obtain ⟨rb, r, rfl, hr⟩ := peek_inv hrb
    exact ⟨[t, rb], rfl, .list0 hty hr⟩
  · rename_i ha
    exact Sfx.cons _ _ |>.err (P.args _ _) ha
  · rename_i t rest hnres hty hnrb args ts' ha
    obtain ⟨ts1, rfl, d1⟩ := (P.args _ rest).ok ha
    exact ⟨t :: ts1, rfl, .list hty d1⟩
  -- `{`
  · rename_i t rest hnres hty hrb
    obtain ⟨rb, r, rfl, hr⟩ := peek_inv hrb
    exact ⟨[t, rb], rfl, .dict0 hty hr⟩
  · rename_i hd
    exact Sfx.cons _ _ |>.err (P.dict _ _) hd
  · rename_i t rest hnres hty hnrb kvs ts' hd
    obtain ⟨ts1, rfl, d1⟩ := (P.dict _ rest).ok hd
    exact ⟨t :: ts1, rfl, .dict hty d1⟩
  -- unary minus, `not`
  · rename_i he
    exact Sfx.cons _ _ |>.err (P.expr _ _ _) he
  · rename_i t rest hnres hty x bx ts' he
    obtain ⟨ts1, rfl, d1⟩ := (P.expr _ _ rest).ok he
    exact ⟨t :: ts1, rfl, .neg hty d1⟩
  · rename_i he
    exact Sfx.cons _ _ |>.err (P.expr _ _ _) he
  · rename_i t rest hnres hty x bx ts' he
    obtain ⟨ts1, rfl, d1⟩ := (P.expr _ _ rest).ok he
    exact ⟨t :: ts1, rfl, .not hty d1⟩
  · exact errOK_self _

theorem spec_all : ∀ f, PSpec f
  | 0 => spec_zero
  | f + 1 =>
    have P := spec_all f
    ⟨pExpr_step P, pLoop_step P, pArgs_step P, pArgsTail_step P, pDictItems_step P, pParams_step P, pSubscript_step P, pPrefix_step P⟩

structure Snd (f : Nat) : Prop where
  expr : ∀ m a ts t b tl, pExpr f m a ts = .ok ((t, b), tl) →
    ∃ ts0, ts = ts0 ++ tl ∧ RExpr m a ts0 t b (peekTy tl)
  loop : ∀ m a l b0 ts t b tl, pLoop f m a l b0 ts = .ok ((t, b), tl) →
    ∃ ts0, ts = ts0 ++ tl ∧ RSpine m a l b0 ts0 t b (peekTy tl)
  args : ∀ close ts out tl, pArgs f close ts = .ok (out, tl) → ∃ ts0, ts = ts0 ++ tl ∧ RArgs close ts0 out
  argsTail : ∀ close acc ts out tl, pArgsTail f close acc ts = .ok (out, tl) →
    ∃ ts0, ts = ts0 ++ tl ∧ RArgsTail close acc ts0 out
  dict : ∀ acc ts out tl, pDictItems f acc ts = .ok (out, tl) → ∃ ts0, ts = ts0 ++ tl ∧ RDict acc ts0 out
  params : ∀ acc ts out tl, pParams f acc ts = .ok (out, tl) → ∃ ts0, ts = ts0 ++ tl ∧ RParams acc ts0 out
  sub : ∀ ts k plain tl, pSubscript f ts = .ok ((k, plain), tl) → ∃ ts0, ts = ts0 ++ tl ∧ RSub ts0 k plain
  pre : ∀ ts t tl, pPrefix f ts = .ok (t, tl) → ∃ ts0, ts = ts0 ++ tl ∧ RPrim ts0 t (peekTy tl)

theorem snd_all (f : Nat) : Snd f :=
  have P := spec_all f
  ⟨fun _ _ _ _ _ _ h => (P.expr _ _ _).ok h, fun _ _ _ _ _ _ _ _ h => (P.loop _ _ _ _ _).ok h,
   fun _ _ _ _ h => (P.args _ _).ok h, fun _ _ _ _ _ h => (P.argsTail _ _ _).ok h, fun _ _ _ _ h => (P.dict _ _).ok h,
   fun _ _ _ _ h => (P.params _ _).ok h, fun _ _ _ _ h => (P.sub _).ok h, fun _ _ _ h => (P.pre _).ok h⟩

theorem sExpr {f m : Nat} {a : Assoc} {ts : List Token} {t : Op} {b : Bool} {tl : List Token}
    (h : pExpr f m a ts = .ok ((t, b), tl)) : ∃ ts0, ts = ts0 ++ tl ∧ RExpr m a ts0 t b (peekTy tl) :=
  (snd_all f).expr _ _ _ _ _ _ h

/-- a statement: the derivation needs to know that a separator or the end of the text follows, which only the caller
    sees -/
theorem stmt_spec (f : Nat) (ts : List Token) :
    Res (fun s ts0 tl => stmtEnd (peekTy tl) → RStmt ts0 s (peekTy tl)) ts (pStatement f ts) := by
  have P := spec_all f
  fun_cases pStatement f ts
  · exact ⟨[], rfl, .empty⟩
  · exact ⟨[], rfl, .empty⟩
  -- NAME = expr
  · rename_i he
    exact Sfx.cons _ _ |>.tail |>.err (P.expr _ _ _) he
  · rename_i t rest hnnl hc v bv ts' he
    obtain ⟨eq, r1, rfl, heq⟩ := peek_inv hc.2
    obtain ⟨ts1, (rfl : r1 = _), d1⟩ := (P.expr _ _ _).ok he
    exact ⟨t :: eq :: ts1, rfl, fun hend => .assign hend hc.1 heq d1⟩
  -- NAME op= expr
  · exact Sfx.cons _ _
  · rename_i he hna hc
    exact Sfx.cons _ _ |>.tail |>.err (P.expr _ _ _) he
  · rename_i t hnnl o r2 k hk v bv ts' he hna hc
    obtain ⟨ts1, rfl, d1⟩ := (P.expr _ _ r2).ok he
    exact ⟨t :: o :: ts1, rfl, fun hend => .short hend hc.1 (Option.some.inj hc.2) hk d1⟩
  · exact errOK_nil _
  -- del e[k]
  · rename_i he
    exact Sfx.cons _ _ |>.err (P.expr _ _ _) he
  · rename_i t rest hnnl hna hns hdel x ts' c k hi he
    obtain ⟨ts1, rfl, d1⟩ := (P.expr _ _ rest).ok he
    exact ⟨t :: ts1, rfl, fun hend => .del hend hdel d1 hi⟩
  · rename_i he hno
    exact (Sfx.cons _ _).trans ((P.expr _ _ _).sfx he)
  -- expression statement, e[k] = v, e[k] op= v: the branch conditions decide the three inner matches
  · rename_i he
    simp only [he]
    exact (P.expr _ _ _).err he
  · rename_i hi hoa e hv he
    simp only [he, hi, hoa, hv, if_true]
    exact (P.expr _ _ _).sfx he |>.tail |>.err (P.expr _ _ _) hv
  · rename_i o r2 hi hoa v bv ts' hv he
    simp only [he, hi, hoa, hv, if_true]
    obtain ⟨ts1, e1, d1⟩ := P.expr_upto he hoa
    obtain ⟨ts2, rfl, d2⟩ := (P.expr _ _ r2).ok hv
    exact ⟨ts1 ++ o :: ts2, by rw [e1]; simp, fun hend => .setitem hend d1 hi hoa d2⟩
  · rename_i hi hnoa hos e hv he
    simp only [he, hi, hos, hv, if_true]
    exact (P.expr _ _ _).sfx he |>.tail |>.err (P.expr _ _ _) hv
  · rename_i o r2 hi hnoa hos v bv ts' hv he
    simp only [he, hi, hos, hv, if_true]
    obtain ⟨ts1, e1, d1⟩ := P.expr_upto he hos
    obtain ⟨ts2, rfl, d2⟩ := (P.expr _ _ r2).ok hv
    exact ⟨ts1 ++ o :: ts2, by rw [e1]; simp, fun hend => .setop hend d1 hi hos d2⟩
  · rename_i hi hnoa hnos he
    simp only [he, hi, hnoa, hnos, if_false]
    obtain ⟨ts1, e1, d1⟩ := (P.expr _ _ _).ok he
    exact ⟨ts1, e1, fun hend => .expr hend d1⟩
  · rename_i he
    simp only [he]
    obtain ⟨ts1, e1, d1⟩ := (P.expr _ _ _).ok he
    exact ⟨ts1, e1, fun hend => .expr hend d1⟩

def ResCode (acc : List Op) (ts : List Token) : Except PErr (List Op) → Prop
  | .ok out => RCode acc ts out
  | .error e => ErrOK ts e

theorem ResCode.after {acc acc' : List Op} {ts0 rest : List Token} {s : Option Op} {nl : Token}
    {p : Except PErr (List Op)} (hs : RStmt ts0 s (some .NEWLINE)) (hnl : nl.ty = .NEWLINE) (hacc : acc' = pushStmt acc s)
    (h : ResCode acc' rest p) : ResCode acc (ts0 ++ nl :: rest) p := by
  subst hacc
  match p, h with
  | .ok out, h => exact RCode.more hs hnl h
  | .error e, h => exact errOK_mono ⟨ts0 ++ [nl], by simp⟩ h

theorem code_spec : ∀ (n f : Nat) (acc : List Op) (ts : List Token), ResCode acc ts (pCode n f acc ts)
  | 0, _, _, _ => by rw [pCode]; trivial
  | n + 1, f, acc, ts => by
    rw [pCode]
    split
    · rename_i hs; exact (stmt_spec f ts).err hs
    · rename_i s ts' hs
      obtain ⟨ts0, e0, r0⟩ := (stmt_spec f ts).ok hs
      simp only
      split
      · rw [List.append_nil] at e0
        subst e0
        have := RCode.last (acc := acc) (r0 (.inl rfl))
        cases s <;> exact this
      · rename_i rest
        split
        · rename_i hnl
          have hs' : RStmt ts0 s (some .NEWLINE) := by
            have := r0 (.inr (by rw [peekTy_cons, hnl])); rwa [peekTy_cons, hnl] at this
          rw [e0]
          exact .after hs' hnl (by cases s <;> rfl) (code_spec n f _ rest)
        · exact ⟨ts0, e0⟩

theorem parse_spec (ts : List Token) :
    match parseTokens ts with
    | .ok tree => ∃ out, tree = .code out ∧ RCode [] ts out
    | .error e => ErrOK ts e := by
  have := code_spec (ts.length + 1) (4 * ts.length + 8) [] ts
  unfold parseTokens
  simp only
  generalize pCode (ts.length + 1) (4 * ts.length + 8) [] ts = p at this ⊢
  match p, this with
  | .ok ls, h => exact ⟨ls, rfl, h⟩
  | .error e, h => exact h

theorem sound {ts : List Token} {tree : Op} (h : parseTokens ts = .ok tree) :
    ∃ out, tree = .code out ∧ RCode [] ts out := by
  have := parse_spec ts
  rw [h] at this
  exact this

theorem parse_error_in_text {ts : List Token} {e : PErr} (h : parseTokens ts = .error e) : ErrOK ts e := by
  have := parse_spec ts
  rw [h] at this
  exact this

/- `PSpec` read for rejected inputs as a structure (`Esnd`, like `Snd`), and a few facts about `Sfx` and `PR` results -/

structure Esnd (f : Nat) : Prop where
  expr : ∀ m a ts e, pExpr f m a ts = .error e → ErrOK ts e
  loop : ∀ m a l b0 ts e, pLoop f m a l b0 ts = .error e → ErrOK ts e
  args : ∀ close ts e, pArgs f close ts = .error e → ErrOK ts e
  argsTail : ∀ close acc ts e, pArgsTail f close acc ts = .error e → ErrOK ts e
  dict : ∀ acc ts e, pDictItems f acc ts = .error e → ErrOK ts e
  params : ∀ acc ts e, pParams f acc ts = .error e → ErrOK ts e
  sub : ∀ ts e, pSubscript f ts = .error e → ErrOK ts e
  pre : ∀ ts e, pPrefix f ts = .error e → ErrOK ts e

theorem esnd_all (f : Nat) : Esnd f :=
  have P := spec_all f
  ⟨fun _ _ _ _ h => (P.expr _ _ _).err h, fun _ _ _ _ _ _ h => (P.loop _ _ _ _ _).err h,
   fun _ _ _ h => (P.args _ _).err h, fun _ _ _ _ h => (P.argsTail _ _ _).err h, fun _ _ _ h => (P.dict _ _).err h,
   fun _ _ _ h => (P.params _ _).err h, fun _ _ h => (P.sub _).err h, fun _ _ h => (P.pre _).err h⟩

theorem ok_suffix_expr {f m : Nat} {a : Assoc} {ts : List Token} {t : Op} {b : Bool} {tl : List Token}
    (h : pExpr f m a ts = .ok ((t, b), tl)) : ∃ pre, ts = pre ++ tl :=
  ((spec_all f).expr _ _ _).sfx h

theorem sfx_argsTail {f : Nat} {c : Tk} {acc : List Op} {ts : List Token} {o : List Op} {tl : List Token}
    (h : pArgsTail f c acc ts = .ok (o, tl)) : Sfx ts tl :=
  ((spec_all f).argsTail _ _ _).sfx h
theorem sfx_dict {f : Nat} {acc : List Op} {ts : List Token} {o : List Op} {tl : List Token}
    (h : pDictItems f acc ts = .ok (o, tl)) : Sfx ts tl :=
  ((spec_all f).dict _ _).sfx h

theorem err_inj {α : Type} {e e' : PErr} (h : (Except.error e : PR α) = .error e') : e = e' := by
  injection h

theorem Sfx.cons_of {t : Token} {ts tl : List Token} (h : Sfx ts tl) : Sfx (t :: ts) tl := (Sfx.cons t ts).trans h

theorem opt_pair_inj {α : Type} {x y : Option α} {r s : List Token}
    (h : (Except.ok (x, r) : PR (Option α)) = .ok (y, s)) : x = y ∧ r = s := by
  injection h with h; injection h with h1 h2; exact ⟨h1, h2⟩

end Sq
