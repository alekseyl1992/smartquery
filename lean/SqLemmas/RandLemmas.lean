/-
  The Fisher–Yates loop of `shuffle` only permutes; the `rand()`
  stand-in lies in [0, 1) for every generator state.
-/
import Sq.Builtins
namespace Sq

theorem shuffle_go_perm : ∀ (n : Nat) (l : List Val) (r : Nat), List.Perm (b_shuffle.go n l r).1 l := by
  intro n
  induction n with
  | zero => intro l r; exact List.Perm.refl _
  | succ i ih =>
    intro l r
    simp only [b_shuffle.go]
    split
    · rename_i vi vj hi hj
      obtain ⟨h1, rfl⟩ := List.getElem?_eq_some_iff.mp hi
      obtain ⟨h2, rfl⟩ := List.getElem?_eq_some_iff.mp hj
      exact (ih _ _).trans (List.set_set_perm h1 h2)
    · exact List.Perm.refl _

theorem lcgNext_lt (x : Nat) : lcgNext x < 2 ^ 64 := by
  unfold lcgNext
  exact Nat.mod_lt _ (by decide)

/-- `K` is the exponent of two the loop starts from (53 at its one call) -/
theorem unitRed_invariant (K : Nat) : ∀ (f n k : Nat), k ≤ K →
    (unitRed f n k).1 * 2 ^ (K - (unitRed f n k).2) = n * 2 ^ (K - k) ∧ (unitRed f n k).2 ≤ k := by
  intro f
  induction f with
  | zero => intro n k _; exact ⟨rfl, Nat.le_refl _⟩
  | succ f ih =>
    intro n k hk
    unfold unitRed
    split
    · rename_i hc
      obtain ⟨h1, h2⟩ := ih (n / 2) (k - 1) (Nat.le_trans (Nat.sub_le k 1) hk)
      refine ⟨?_, Nat.le_trans h2 (Nat.sub_le k 1)⟩
      -- one halving: n = 2·(n/2), and the exponent of two grows by one
      have e : K - (k - 1) = (K - k) + 1 := by omega
      rw [h1, e, Nat.pow_succ, Nat.mul_comm (2 ^ (K - k)) 2, ← Nat.mul_assoc, Nat.div_mul_cancel (Nat.dvd_of_mod_eq_zero hc.2)]
    · exact ⟨rfl, Nat.le_refl _⟩

/-- `unitDec x` is `(x / 2^11) / 2^53` in lowest terms `n / 2^k` (the 53-bit fraction of a 64-bit draw: 2048 = 2^11),
    written `n·5^k · 10^(-k)`; `n < 2^k` gives `n·5^k < 2^k·5^k = 10^k` -/
theorem unitDec_range (x : Nat) (hx : x < 2 ^ 64) :
    ∃ (c k : Nat), unitDec x = { neg := false, coeff := c, exp := -(k : Int) } ∧ c < 10 ^ k := by
  unfold unitDec
  by_cases hm : x / 2048 = 0
  · simp only [hm, if_true]
    exact ⟨0 * 5 ^ 0, 0, rfl, by decide⟩
  · simp only [hm, if_false]
    obtain ⟨h1, h2⟩ := unitRed_invariant 53 53 (x / 2048) 53 (Nat.le_refl _)
    generalize unitRed 53 (x / 2048) 53 = r at h1 h2
    obtain ⟨n, k⟩ := r
    refine ⟨n * 5 ^ k, k, rfl, ?_⟩
    simp only at h1 h2
    have hmlt : x / 2048 < 2 ^ 53 := by
      have e : (2 : Nat) ^ 64 = 2 ^ 53 * 2048 := by rfl
      rw [e] at hx
      exact Nat.div_lt_of_lt_mul (by rw [Nat.mul_comm]; exact hx)
    rw [Nat.sub_self, Nat.pow_zero, Nat.mul_one] at h1
    have hn : n < 2 ^ k := by
      have hpow : 2 ^ 53 = 2 ^ k * 2 ^ (53 - k) := by rw [← Nat.pow_add]; congr 1; omega
      rw [← h1, hpow] at hmlt
      exact Nat.lt_of_mul_lt_mul_right hmlt
    have : (10 : Nat) ^ k = 2 ^ k * 5 ^ k := by rw [← Nat.mul_pow]
    rw [this]
    exact Nat.mul_lt_mul_of_pos_right hn (Nat.pow_pos (by decide))

theorem randUnit_range (s : BState) :
    ∃ (c k : Nat) (s' : BState), randUnit s = .ok (.dec { neg := false, coeff := c, exp := -(k : Int) } true, s') ∧
      c < 10 ^ k ∧ s'.heap = s.heap := by
  obtain ⟨c, k, he, hlt⟩ := unitDec_range (lcgNext s.rng) (lcgNext_lt s.rng)
  refine ⟨c, k, { s with rng := lcgNext s.rng }, ?_, hlt, rfl⟩
  unfold randUnit
  simp only [ret]
  rw [he]

theorem randInt_range (lo hi : Int) (s : BState) (hle : lo ≤ hi) :
    ∃ n : Int, ∃ s', randInt lo hi s = .ok (.dec (Dec.ofInt n) true, s') ∧ lo ≤ n ∧ n ≤ hi := by
  have hnot : ¬ (lo > hi) := by omega
  refine ⟨lo + (((lcgHigh (lcgNext s.rng)) % (hi - lo + 1).toNat : Nat) : Int), { s with rng := lcgNext s.rng }, ?_, ?_, ?_⟩
  · simp [randInt, hnot, ret]
  · omega
  · have hpos : 0 < (hi - lo + 1).toNat := by omega
    have := Nat.mod_lt (lcgHigh (lcgNext s.rng)) hpos
    omega

theorem randChoice_member (xs : List Val) (s : BState) (v : Val) (s' : BState)
    (h : randChoice xs s = .ok (v, s')) : v ∈ xs ∧ s'.heap = s.heap := by
  unfold randChoice at h
  split at h
  · simp at h
  · simp only [] at h
    split at h
    · rename_i w hw
      simp [ret] at h
      obtain ⟨rfl, rfl⟩ := h
      exact ⟨List.mem_of_getElem? hw, rfl⟩
    · simp [U] at h

end Sq
