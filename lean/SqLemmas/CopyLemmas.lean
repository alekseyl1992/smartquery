/-
  What `copy.deepcopy` builds is new.  Rule induction for the memo walk (`deepcopy_ind`) and two uses of it: every object
  reachable from the copy was created by the copy (C12: `deepcopy_fresh`, `Reach`, `reach_ge`), and the walk leaves every
  object that existed before as it was (`deepcopy_ext`, `deepcopy'_ext`: the frame lemmas of C13).
-/
import Sq.Prim
import SqLemmas.HeapLemmas
namespace Sq

inductive RefsGe (b : Nat) : Val → Prop
  | none : RefsGe b .none
  | bool {x} : RefsGe b (.bool x)
  | dec {d c} : RefsGe b (.dec d c)
  | int {i} : RefsGe b (.int i)
  | str {s} : RefsGe b (.str s)
  | slice {x y z} : RefsGe b (.slice x y z)
  | builtin {n} : RefsGe b (.builtin n)
  | closure {ps body vm} : RefsGe b (.closure ps body vm)
  | host {i} : RefsGe b (.host i)
  | opaque {k} : RefsGe b (.opaque k)
  | ref {a} : a ≥ b → RefsGe b (.ref a)
  | tuple {vs} : (∀ v, v ∈ vs → RefsGe b v) → RefsGe b (.tuple vs)

def ObjGe (b : Nat) : HObj → Prop
  | .list xs => ∀ v, v ∈ xs → RefsGe b v
  | .dict kvs => ∀ kv, kv ∈ kvs → RefsGe b kv.1 ∧ RefsGe b kv.2

theorem RefsGe.of_ref {b a : Nat} (h : RefsGe b (.ref a)) : a ≥ b := by cases h; assumption
theorem RefsGe.of_tuple {b : Nat} {vs : List Val} (h : RefsGe b (.tuple vs)) : ∀ v, v ∈ vs → RefsGe b v := by
  cases h; assumption

/-- dict keys hold no address (they are hashable: strings, numbers, tuples of such) -/
def KeysPlain (h : Heap) : Prop :=
  ∀ a kvs, h.get? a = some (.dict kvs) → ∀ kv, kv ∈ kvs → ∀ b, RefsGe b kv.1

/-- invariant of a copy in progress; `b` is the heap size when it started -/
structure CopyInv (b : Nat) (h : Heap) (memo : List (Nat × Nat)) : Prop where
  memo_new : ∀ p, p ∈ memo → p.2 ≥ b
  objs_new : ∀ a, a ≥ b → ∀ o, h.get? a = some o → ObjGe b o
  keys : KeysPlain h

/-- rule induction over the successful calls of the walk.  A container not yet in the memo is allocated empty at `h.size`,
    entered in the memo, its children copied, and only then filled in: the rules `list` and `dict` see the children copied
    in the heap with the placeholder. -/
theorem deepcopy_ind
    {P : Heap → List (Nat × Nat) → Val → Val → Heap → List (Nat × Nat) → Prop}
    {Q : Heap → List (Nat × Nat) → List Val → List Val → Heap → List (Nat × Nat) → Prop}
    (tuple : ∀ {h m vs vs' h' m'}, Q h m vs vs' h' m' → P h m (.tuple vs) (.tuple vs') h' m')
    (seen : ∀ {h m a p}, m.find? (fun p => p.1 == a) = some p → P h m (.ref a) (.ref p.2) h m)
    (list : ∀ {h m a xs xs' h' m'}, m.find? (fun p => p.1 == a) = none → h.get? a = some (.list xs) →
      Q (h.push (.list [])) ((a, h.size) :: m) xs xs' h' m' →
      P h m (.ref a) (.ref h.size) (h'.set h.size (.list xs')) m')
    (dict : ∀ {h m a kvs vs' h' m'}, m.find? (fun p => p.1 == a) = none → h.get? a = some (.dict kvs) →
      Q (h.push (.dict [])) ((a, h.size) :: m) (kvs.map (·.2)) vs' h' m' →
      P h m (.ref a) (.ref h.size) (h'.set h.size (.dict ((kvs.map (·.1)).zip vs'))) m')
    (scalar : ∀ {h m v}, (∀ a, v ≠ .ref a) → (∀ vs, v ≠ .tuple vs) → P h m v v h m)
    (nil : ∀ {h m}, Q h m [] [] h m)
    (cons : ∀ {h m x xs x' h1 m1 xs' h2 m2}, P h m x x' h1 m1 → Q h1 m1 xs xs' h2 m2 →
      Q h m (x :: xs) (x' :: xs') h2 m2) :
    ∀ (f : Nat),
      (∀ {h m v v' h' m'}, deepcopy f h m v = some (v', h', m') → P h m v v' h' m') ∧
      (∀ {h m vs vs' h' m'}, deepcopy.copyList f h m vs = some (vs', h', m') → Q h m vs vs' h' m') := by
  intro f
  induction f with
  | zero => exact ⟨by intro h m v v' h' m' hh; simp [deepcopy] at hh,
                   by intro h m vs vs' h' m' hh; simp [deepcopy.copyList] at hh⟩
  | succ f ih =>
    obtain ⟨ihd, ihl⟩ := ih
    constructor
    · intro h m v v' h' m' hh
      unfold deepcopy at hh
      split at hh
      · split at hh
        · rename_i hr
          cases hh
          exact tuple (ihl hr)
        · cases hh
      · split at hh
        · rename_i hp
          cases hh
          exact seen hp
        · rename_i hfind
          split at hh
          · rename_i hg
            simp only [Heap.alloc] at hh
            split at hh
            · rename_i hr
              cases hh
              exact list hfind hg (ihl hr)
            · cases hh
          · rename_i hg
            simp only [Heap.alloc] at hh
            split at hh
            · rename_i hr
              cases hh
              exact dict hfind hg (ihl hr)
            · cases hh
          · cases hh
      · rename_i hnt hnr
        cases hh
        exact scalar hnr hnt
    · intro h m vs vs' h' m' hh
      cases vs with
      | nil =>
        simp only [deepcopy.copyList] at hh
        cases hh
        exact nil
      | cons x xs =>
        simp only [deepcopy.copyList] at hh
        split at hh
        · cases hh
        · rename_i hx
          split at hh
          · rename_i hxs
            cases hh
            exact cons (ihd hx) (ihl hxs)
          · cases hh

theorem deepcopy'_ok {h : Heap} {v v' : Val} {h' : Heap} (hc : deepcopy' h v = .ok (v', h')) :
    ∃ m, deepcopy (heapWeight h + 64) h [] v = some (v', h', m) := by
  unfold deepcopy' at hc
  split at hc
  · rename_i m hr
    cases hc
    exact ⟨m, hr⟩
  · cases hc

theorem deepcopy_scalar (f : Nat) (h : Heap) (m : List (Nat × Nat)) (v : Val) (h1 : ∀ a, v ≠ .ref a)
    (h2 : ∀ vs, v ≠ .tuple vs) : deepcopy (f + 1) h m v = some (v, h, m) := by
  cases v <;> first | rfl | exact absurd rfl (h1 _) | exact absurd rfl (h2 _)

theorem copyInv_push {b : Nat} {h : Heap} {memo : List (Nat × Nat)} (hi : CopyInv b h memo) (hb : b ≤ h.size)
    (a : Nat) (o : HObj) (ho : ObjGe b o) (hk : ∀ kvs, o = .dict kvs → ∀ kv, kv ∈ kvs → ∀ b, RefsGe b kv.1) :
    CopyInv b (h.push o) ((a, h.size) :: memo) := by
  refine ⟨?_, ?_, ?_⟩
  · intro p hp
    rcases List.mem_cons.mp hp with e | e
    · rw [e]; exact hb
    · exact hi.memo_new p e
  · exact fun x hx ob hg => (of_get?_push hg).elim (· ▸ ho) (hi.objs_new x hx ob)
  · exact fun x kvs hg => (of_get?_push hg).elim (hk kvs) (hi.keys x kvs)

theorem copyInv_set {b : Nat} {h : Heap} {memo : List (Nat × Nat)} (hi : CopyInv b h memo) (a : Nat) (o : HObj)
    (ho : ObjGe b o) (hk : ∀ kvs, o = .dict kvs → ∀ kv, kv ∈ kvs → ∀ b, RefsGe b kv.1) :
    CopyInv b (h.set a o) memo :=
  ⟨hi.memo_new, fun x hx ob hg => (of_get?_set hg).elim (· ▸ ho) (hi.objs_new x hx ob),
    fun x kvs hg => (of_get?_set hg).elim (hk kvs) (hi.keys x kvs)⟩

theorem deepcopy_fresh (b : Nat) : ∀ (f : Nat),
    (∀ h memo v v' h' memo', deepcopy f h memo v = some (v', h', memo') → b ≤ h.size → CopyInv b h memo →
      CopyInv b h' memo' ∧ RefsGe b v' ∧ h.size ≤ h'.size) ∧
    (∀ h memo vs vs' h' memo', deepcopy.copyList f h memo vs = some (vs', h', memo') → b ≤ h.size → CopyInv b h memo →
      CopyInv b h' memo' ∧ (∀ v, v ∈ vs' → RefsGe b v) ∧ h.size ≤ h'.size ∧ vs'.length = vs.length) := by
  refine deepcopy_ind ?tuple ?seen ?list ?dict ?scalar ?nil ?cons
  case tuple =>
    intro _ _ _ _ _ _ ih hb hi
    obtain ⟨i1, f1, s1, _⟩ := ih hb hi
    exact ⟨i1, .tuple f1, s1⟩
  case seen =>
    intro _ _ _ p hp _ hi
    exact ⟨hi, .ref (hi.memo_new p (List.mem_of_find?_eq_some hp)), Nat.le_refl _⟩
  case list =>
    intro h _ a _ _ _ _ _ _ ih hb hi
    obtain ⟨i2, f2, s2, _⟩ := ih (by simp; omega) (copyInv_push hi hb a (.list []) (fun _ h => nomatch h) (fun _ e => nomatch e))
    refine ⟨copyInv_set i2 _ _ f2 (fun kvs e => by cases e), .ref hb, ?_⟩
    rw [size_set]; simp at s2; omega
  case dict =>
    intro h _ a kvs vs' _ _ _ hg ih hb hi
    obtain ⟨i2, f2, s2, _⟩ := ih (by simp; omega) (copyInv_push hi hb a (.dict []) (fun _ h => nomatch h) (fun _ e _ h => by cases e; cases h))
    -- the keys are those of the original, which hold no address at all
    have hkeys : ∀ kv, kv ∈ (kvs.map (·.1)).zip vs' → ∀ b', RefsGe b' kv.1 := by
      intro kv hkv b'
      obtain ⟨kv0, hm0, e0⟩ := List.mem_map.mp (List.of_mem_zip hkv).1
      exact e0 ▸ hi.keys a kvs hg kv0 hm0 b'
    refine ⟨copyInv_set i2 _ _ (fun kv hkv => ⟨hkeys kv hkv b, f2 kv.2 (List.of_mem_zip hkv).2⟩) ?_, .ref hb, ?_⟩
    · intro kvs' e kv hkv b'
      cases e
      exact hkeys kv hkv b'
    · rw [size_set]; simp at s2; omega
  case scalar =>
    intro _ _ v hnr hnt _ hi
    refine ⟨hi, ?_, Nat.le_refl _⟩
    cases v <;> first | exact absurd rfl (hnt _) | exact absurd rfl (hnr _) | constructor
  case nil =>
    intro _ _ _ hi
    exact ⟨hi, fun v hv => (by cases hv), Nat.le_refl _, rfl⟩
  case cons =>
    intro _ _ _ _ _ _ _ _ _ _ ih1 ih2 hb hi
    obtain ⟨i1, f1, s1⟩ := ih1 hb hi
    obtain ⟨i2, f2, s2, l2⟩ := ih2 (by omega) i1
    refine ⟨i2, ?_, by omega, by simp [l2]⟩
    intro v hv
    rcases List.mem_cons.mp hv with e | e
    · rw [e]; exact f1
    · exact f2 v e

theorem deepcopy'_fresh (h : Heap) (v v' : Val) (h' : Heap) (hk : KeysPlain h)
    (hc : deepcopy' h v = .ok (v', h')) :
    RefsGe h.size v' ∧ (∀ a, a ≥ h.size → ∀ o, h'.get? a = some o → ObjGe h.size o) ∧ KeysPlain h' := by
  obtain ⟨m, hr⟩ := deepcopy'_ok hc
  have hi0 : CopyInv h.size h [] :=
    ⟨fun p hp => (by cases hp), fun a ha o hg => absurd (get_lt hg) (Nat.not_lt.mpr ha), hk⟩
  obtain ⟨i1, f1, _⟩ := (deepcopy_fresh h.size _).1 _ _ _ _ _ _ hr (Nat.le_refl _) hi0
  exact ⟨f1, i1.objs_new, i1.keys⟩

/-- the object at `c` can be reached from `v`: all that a mutation through `v` could touch or a read through `v` see -/
inductive Reach (h : Heap) : Val → Nat → Prop
  | here {a} : Reach h (.ref a) a
  | tuple {vs v c} : v ∈ vs → Reach h v c → Reach h (.tuple vs) c
  | elem {a xs v c} : h.get? a = some (.list xs) → v ∈ xs → Reach h v c → Reach h (.ref a) c
  | key {a kvs kv c} : h.get? a = some (.dict kvs) → kv ∈ kvs → Reach h kv.1 c → Reach h (.ref a) c
  | value {a kvs kv c} : h.get? a = some (.dict kvs) → kv ∈ kvs → Reach h kv.2 c → Reach h (.ref a) c

/-- `P`: a class of addresses the heap is closed under; `R`: the matching property of values (`RefsGe b` with `· ≥ b`,
    `RefsLt n` with `· < n`) -/
theorem reach_closed {R : Val → Prop} {P : Nat → Prop} {h : Heap}
    (ref : ∀ a, R (.ref a) → P a) (tuple : ∀ vs, R (.tuple vs) → ∀ v, v ∈ vs → R v)
    (list : ∀ a xs, P a → h.get? a = some (.list xs) → ∀ v, v ∈ xs → R v)
    (dict : ∀ a kvs, P a → h.get? a = some (.dict kvs) → ∀ kv, kv ∈ kvs → R kv.1 ∧ R kv.2)
    {v : Val} {c : Nat} (hr : Reach h v c) : R v → P c := by
  induction hr with
  | here => exact ref _
  | tuple hm _ ih => exact fun hv => ih (tuple _ hv _ hm)
  | elem hg hm _ ih => exact fun hv => ih (list _ _ (ref _ hv) hg _ hm)
  | key hg hm _ ih => exact fun hv => ih (dict _ _ (ref _ hv) hg _ hm).1
  | value hg hm _ ih => exact fun hv => ih (dict _ _ (ref _ hv) hg _ hm).2

theorem reach_ge {b : Nat} {h : Heap} (hobj : ∀ a, a ≥ b → ∀ o, h.get? a = some o → ObjGe b o)
    {v : Val} {c : Nat} (hr : Reach h v c) : RefsGe b v → c ≥ b :=
  reach_closed (R := RefsGe b) (P := (· ≥ b)) (fun _ => RefsGe.of_ref) (fun _ => RefsGe.of_tuple)
    (fun a _ ha hg => hobj a ha _ hg) (fun a _ ha hg => hobj a ha _ hg) hr

inductive RefsLt (n : Nat) : Val → Prop
  | none : RefsLt n .none
  | bool {x} : RefsLt n (.bool x)
  | dec {d c} : RefsLt n (.dec d c)
  | int {i} : RefsLt n (.int i)
  | str {s} : RefsLt n (.str s)
  | slice {x y z} : RefsLt n (.slice x y z)
  | builtin {m} : RefsLt n (.builtin m)
  | closure {ps body vm} : RefsLt n (.closure ps body vm)
  | host {i} : RefsLt n (.host i)
  | opaque {k} : RefsLt n (.opaque k)
  | ref {a} : a < n → RefsLt n (.ref a)
  | tuple {vs} : (∀ v, v ∈ vs → RefsLt n v) → RefsLt n (.tuple vs)

def ObjLt (n : Nat) : HObj → Prop
  | .list xs => ∀ v, v ∈ xs → RefsLt n v
  | .dict kvs => ∀ kv, kv ∈ kvs → RefsLt n kv.1 ∧ RefsLt n kv.2

theorem ObjLt.values {n : Nat} {kvs : List (Val × Val)} (h : ObjLt n (.dict kvs)) : ∀ v, v ∈ kvs.map (·.2) → RefsLt n v := by
  intro v hv
  obtain ⟨kv, hkv, rfl⟩ := List.mem_map.mp hv
  exact (h kv hkv).2

theorem RefsLt.of_ref {n a : Nat} (h : RefsLt n (.ref a)) : a < n := by cases h; assumption
theorem RefsLt.of_tuple {n : Nat} {vs : List Val} (h : RefsLt n (.tuple vs)) : ∀ v, v ∈ vs → RefsLt n v := by
  cases h; assumption

def Closed (h : Heap) : Prop := ∀ a o, h.get? a = some o → ObjLt h.size o

theorem Closed.of_mem {h : Heap} (H : ∀ o, o ∈ h.toList → ObjLt h.size o) : Closed h :=
  fun _ o hg => H o (Array.mem_toList_iff.mpr (Array.mem_of_getElem? hg))

theorem reach_lt {n : Nat} {h : Heap} (hobj : ∀ a, a < n → ∀ o, h.get? a = some o → ObjLt n o)
    {v : Val} {c : Nat} (hr : Reach h v c) : RefsLt n v → c < n :=
  reach_closed (R := RefsLt n) (P := (· < n)) (fun _ => RefsLt.of_ref) (fun _ => RefsLt.of_tuple)
    (fun a _ ha hg => hobj a ha _ hg) (fun a _ ha hg => hobj a ha _ hg) hr

open SqProps.C13 in
theorem set_fresh_ext {h h2 : Heap} (hx : HeapExt h h2) (a : Nat) (o : HObj) (ha : a ≥ h.size) :
    HeapExt h (h2.set a o) := by
  refine ⟨by rw [size_set]; exact hx.1, fun b hb => ?_⟩
  rw [get?_set_ne h2 (by omega), hx.2 b hb]

open SqProps.C13 in
theorem deepcopy_ext : ∀ (f : Nat),
    (∀ {h memo v v' h' memo'}, deepcopy f h memo v = some (v', h', memo') → HeapExt h h') ∧
    (∀ {h memo vs vs' h' memo'}, deepcopy.copyList f h memo vs = some (vs', h', memo') → HeapExt h h') := by
  have node : ∀ {h h' : Heap} (o o' : HObj), HeapExt (h.push o) h' → HeapExt h (h'.set h.size o') :=
    fun o o' ih => set_fresh_ext ((alloc_ext _ o).trans ih) _ o' (Nat.le_refl _)
  exact deepcopy_ind (P := fun h _ _ _ h' _ => HeapExt h h') (Q := fun h _ _ _ h' _ => HeapExt h h')
    (fun ih => ih) (fun _ => HeapExt.refl _) (fun _ _ ih => node _ _ ih) (fun _ _ ih => node _ _ ih)
    (fun _ _ => HeapExt.refl _) (HeapExt.refl _) HeapExt.trans

theorem deepcopy'_ext {h : Heap} {v v' : Val} {h' : Heap} (hc : deepcopy' h v = .ok (v', h')) :
    SqProps.C13.HeapExt h h' :=
  have ⟨_, hr⟩ := deepcopy'_ok hc
  (deepcopy_ext _).1 hr

end Sq
