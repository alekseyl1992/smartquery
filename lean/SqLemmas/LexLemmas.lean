/-
  What each scanner consumes (`spanClass`, `strBody`, `matchString`, `pctBody`, `dropLine`), the equations and case lists of the
  sub-lexers up to `lexStep`, and what one step does to text, offset and line (`ResOK`); then the points the token loop passes
  through (`LexReach`) with its invariant `reach_advance` (behind C20: line = 1 + line feeds passed) and `tokens_reached`; last, `Proto.parseText` by outcome.
-/
import Sq.Proto
namespace Sq

def LexSt.shift (d : Nat) (st : LexSt) : LexSt := { st with pos := st.pos + d }
def LexSt.lshift (d : Nat) (st : LexSt) : LexSt := { st with line := st.line + d }

def isBlank (b : Char) : Prop := b = ' ' ∨ b = '\t'

def nl (cs : List Char) : Nat := cs.count '\n'

theorem nl_append (a b : List Char) : nl (a ++ b) = nl a + nl b := by simp [nl, List.count_append]
theorem nl_cons_ne (c : Char) (cs : List Char) (h : c ≠ '\n') : nl (c :: cs) = nl cs := by
  simp [nl, h]
theorem nl_cons_eq (cs : List Char) : nl ('\n' :: cs) = nl cs + 1 := by simp [nl]

theorem strBody_close (q : Char) (z : List Char) : strBody q (q :: z) = some ([], z) := by
  cases z <;> simp [strBody]

/-- a character that is no quote, backslash or line feed joins the body, whatever follows -/
theorem strBody_plain {q c : Char} (hc : c ≠ q) (hbs : c ≠ '\\') (hn : c ≠ '\n') (x : List Char) :
    strBody q (c :: x) = match strBody q x with | some (b, r) => some (c :: b, r) | none => none := by
  cases x with
  | nil => simp [strBody, hc]
  | cons d ds => simp only [strBody, hc, hbs, hn, if_false]; rfl

theorem strBody_spec (q : Char) (cs : List Char) : ∀ b r, strBody q cs = some (b, r) →
    cs = b ++ q :: r ∧ nl b = 0 ∧ ∀ z, strBody q (b ++ q :: z) = some (b, z) := by
  fun_induction strBody q cs with
  | case1 => intro b r h; cases h
  | case2 => intro b r h; cases h; exact ⟨rfl, rfl, strBody_close q⟩
  | case3 c hc => intro b r h; cases h
  | case4 d ds => intro b r h; cases h; exact ⟨rfl, rfl, strBody_close q⟩
  | case5 ds hq => intro b r h; cases h
  | case6 d ds hd b' r' hrec hq ih =>
    intro b r h; cases h
    obtain ⟨e, hn, hz⟩ := ih b' r' hrec
    refine ⟨by rw [e]; rfl, by rw [nl_cons_ne _ _ (by decide), nl_cons_ne _ _ hd, hn], fun z => ?_⟩
    simp only [List.cons_append, strBody, hq, hd, if_false, if_true, hz z]
  | case7 d ds hd hrec hq ih => intro b r h; cases h
  | case8 d ds h1 h2 => intro b r h; cases h
  | case9 c d ds hc hbs hn b' r' hrec ih =>
    intro b r h; cases h
    obtain ⟨e, hn', hz⟩ := ih b' r' hrec
    refine ⟨by rw [List.cons_append, ← e], by rw [nl_cons_ne _ _ hn, hn'], fun z => ?_⟩
    rw [List.cons_append, strBody_plain hc hbs hn, hz z]
  | case10 c d ds hc hbs hn hrec ih => intro b r h; cases h

theorem classify_nl : classify '\n' = .other := by decide

theorem isQuote_cases {q : Char} (h : isQuote q = true) : q = '"' ∨ q = '\'' := by
  simpa only [isQuote, Bool.or_eq_true, beq_iff_eq] using h

theorem not_quote_of_class (c : Char) (h : classify c ≠ .other) : isQuote c = false := by
  cases hq : isQuote c with
  | false => rfl
  | true => rcases isQuote_cases hq with rfl | rfl <;> exact absurd (by decide) h

def Taken (p : CC → Bool) (a : List Char) : Prop := ∀ x ∈ a, classify x ≠ .unknown ∧ p (classify x) = true

def SpanStops (p : CC → Bool) (r : List Char) : Prop :=
  r = [] ∨ ∃ c t, r = c :: t ∧ classify c ≠ .unknown ∧ p (classify c) = false

theorem Taken.cons {p : CC → Bool} {c : Char} {a : List Char} (hu : classify c ≠ .unknown) (hp : p (classify c) = true)
    (h : Taken p a) : Taken p (c :: a) := by
  intro x hx
  rcases List.mem_cons.mp hx with rfl | hx
  · exact ⟨hu, hp⟩
  · exact h x hx

theorem Taken.tail {p : CC → Bool} {c : Char} {a : List Char} (h : Taken p (c :: a)) : Taken p a :=
  fun x hx => h x (List.mem_cons_of_mem _ hx)

theorem Taken.nl_eq {p : CC → Bool} (hp : p .other = false) : ∀ {a : List Char}, Taken p a → nl a = 0
  | [], _ => rfl
  | x :: a, ht => by
    have hx : x ≠ '\n' := by
      rintro rfl
      have := (ht _ (List.mem_cons_self ..)).2
      rw [classify_nl, hp] at this
      cases this
    rw [nl_cons_ne _ _ hx]
    exact Taken.nl_eq hp ht.tail

theorem spanClass_sound (p : CC → Bool) (s : List Char) : ∀ a r, spanClass p s = some (a, r) →
    s = a ++ r ∧ Taken p a ∧ SpanStops p r := by
  fun_induction spanClass p s with
  | case1 => intro a r h; cases h; exact ⟨rfl, nofun, .inl rfl⟩
  | case2 c cs hu => intro a r h; cases h
  | case3 c cs b' r' hrec hu hp ih =>
    intro a r h; cases h
    obtain ⟨e, ht, hs⟩ := ih b' r' hrec
    exact ⟨by rw [e]; rfl, ht.cons hu hp, hs⟩
  | case4 c cs hrec hu hp ih => intro a r h; cases h
  | case5 c cs hu hp => intro a r h; cases h; exact ⟨rfl, nofun, .inr ⟨c, cs, rfl, hu, by simpa using hp⟩⟩

theorem spanClass_cons (p : CC → Bool) {c : Char} (hu : classify c ≠ .unknown) (cs : List Char) :
    spanClass p (c :: cs) =
      if p (classify c) = true then (match spanClass p cs with | some (a, r) => some (c :: a, r) | none => none)
      else some ([], c :: cs) := by
  rw [spanClass]
  cases hk : classify c with
  | unknown => exact absurd hk hu
  | _ => rfl

theorem spanClass_complete (p : CC → Bool) {z : List Char} (hz : SpanStops p z) : ∀ {a : List Char}, Taken p a →
    spanClass p (a ++ z) = some (a, z)
  | [], _ => by
    rcases hz with rfl | ⟨c, t, rfl, hu, hp⟩
    · rfl
    · rw [List.nil_append, spanClass_cons p hu, if_neg (by rw [hp]; decide)]
  | c :: a, ht => by
    obtain ⟨hu, hp⟩ := ht c (List.mem_cons_self ..)
    rw [List.cons_append, spanClass_cons p hu, if_pos hp, spanClass_complete p hz ht.tail]

theorem spanClass_head (p : CC → Bool) {c : Char} {cs a r : List Char} (hp : p (classify c) = true)
    (h : spanClass p (c :: cs) = some (a, r)) : ∃ w, a = c :: w ∧ cs = w ++ r ∧ Taken p (c :: w) ∧ SpanStops p r := by
  obtain ⟨e, ht, hs⟩ := spanClass_sound p _ a r h
  cases a with
  | cons x w => injection e with e1 e2; subst e1; exact ⟨w, rfl, e2, ht, hs⟩
  | nil =>
    rcases hs with rfl | ⟨c', t, rfl, _, hp'⟩
    · cases e
    · injection e with e1 _; rw [← e1, hp] at hp'; cases hp'

theorem pctBody_spec (cs : List Char) : ∀ b r, pctBody cs = some (b, r) →
    cs = b ++ '%' :: r ∧ nl b = 0 ∧ ∀ z, pctBody (b ++ '%' :: z) = some (b, z) := by
  fun_induction pctBody cs with
  | case1 => intro b r h; cases h
  | case2 cs => intro b r h; cases h; exact ⟨rfl, rfl, fun z => by simp [pctBody]⟩
  | case3 cs _ => intro b r h; cases h
  | case4 c cs hc hn b' r' hrec ih =>
    intro b r h; cases h
    obtain ⟨e, hn', hz⟩ := ih b' r' hrec
    exact ⟨by rw [List.cons_append, ← e], by rw [nl_cons_ne _ _ hn, hn'], fun z => by
      simp only [List.cons_append, pctBody, hc, hn, if_false, hz z]⟩
  | case5 c cs hc hn hrec ih => intro b r h; cases h

theorem dropLine_spec : ∀ (cs : List Char), ∃ pre, cs = pre ++ dropLine cs ∧ nl pre = 0 := by
  intro cs
  induction cs with
  | nil => exact ⟨[], by simp [dropLine], by simp [nl]⟩
  | cons c t ih =>
    simp only [dropLine]
    split
    · exact ⟨[], by simp, by simp [nl]⟩
    · rename_i hc
      obtain ⟨pre, e, hn⟩ := ih
      exact ⟨c :: pre, by simp [← e], by rw [nl_cons_ne _ _ hc, hn]⟩

theorem dropLine_shape (cs : List Char) : dropLine cs = [] ∨ ∃ t, dropLine cs = '\n' :: t := by
  induction cs with
  | nil => exact Or.inl rfl
  | cons c cs ih =>
    simp only [dropLine]
    split
    · rename_i hc; exact Or.inr ⟨cs, by rw [hc]⟩
    · exact ih

theorem dropLine_fix (r : List Char) (h : r = [] ∨ ∃ t, r = '\n' :: t) : dropLine r = r := by
  rcases h with rfl | ⟨t, rfl⟩ <;> simp [dropLine]

theorem dropLine_append (pre x : List Char) (hn : nl pre = 0) : dropLine (pre ++ x) = dropLine x := by
  induction pre with
  | nil => rfl
  | cons c pre ih =>
    have hc : c ≠ '\n' := by
      intro e; subst e; rw [nl_cons_eq] at hn; omega
    rw [nl_cons_ne _ _ hc] at hn
    simp only [List.cons_append, dropLine, hc, if_false]
    exact ih hn

theorem lexPunct_pct (st : LexSt) (cs : List Char) : lexPunct st '%' cs =
    match pctBody cs with
    | some (b, rest) => mk (lookupReserved ('%' :: b ++ ['%'])) ('%' :: b ++ ['%']) st (b.length + 2) 0 rest
    | none => .err (.illegal '%' st.pos) := by
  rw [lexPunct, if_pos rfl]
  rfl

theorem lexPunct_hash (st : LexSt) (cs : List Char) :
    lexPunct st '#' cs = .skip (st.shift (1 + (cs.length - (dropLine cs).length))) (dropLine cs) := by
  simp [lexPunct, LexSt.shift, Nat.add_assoc]

theorem lexPunct_short (st : LexSt) (c : Char) (hop : c = '+' ∨ c = '-' ∨ c = '*' ∨ c = '/') (t : List Char) :
    lexPunct st c ('=' :: t) = mk .SHORT_OP [c, '='] st 2 0 t := by
  have h1 : c ≠ '%' := by rcases hop with rfl | rfl | rfl | rfl <;> decide
  have h2 : c ≠ '#' := by rcases hop with rfl | rfl | rfl | rfl <;> decide
  rw [lexPunct, if_neg h1, if_neg h2, if_pos ⟨hop, rfl⟩]; rfl

theorem lexPunct_power (st : LexSt) (t : List Char) : lexPunct st '*' ('*' :: t) = mk .POWER ['*', '*'] st 2 0 t := by
  simp [lexPunct]

theorem lexPunct_dot (st : LexSt) (cs : List Char) : lexPunct st '.' cs = mk .DOT ['.'] st 1 0 cs := by
  simp [lexPunct]

theorem lexPunct_simple (st : LexSt) (c : Char) (cs : List Char) (h1 : c ≠ '%') (h2 : c ≠ '#')
    (hso : ¬ ((c = '+' ∨ c = '-' ∨ c = '*' ∨ c = '/') ∧ cs.head? = some '='))
    (hpw : ¬ (c = '*' ∧ cs.head? = some '*')) (hd : c ≠ '.') : lexPunct st c cs =
    match matchSimple (c :: cs) with
    | some (lit, ty) => mk ty lit st lit.length 0 ((c :: cs).drop lit.length)
    | none => .err (.illegal c st.pos) := by
  rw [lexPunct, if_neg h1, if_neg h2, if_neg hso, if_neg hpw, if_neg hd]
  rfl

theorem lexPunct_quote (st : LexSt) (q : Char) (cs : List Char) (hq : isQuote q = true) :
    lexPunct st q cs = .err (.illegal q st.pos) := by
  rcases isQuote_cases hq with rfl | rfl <;> simp [lexPunct, matchSimple, simpleOps, Str.startsWith]

theorem lexPunct_cases (c : Char) (cs : List Char) :
    c = '%' ∨ c = '#' ∨ ((c = '+' ∨ c = '-' ∨ c = '*' ∨ c = '/') ∧ ∃ t, cs = '=' :: t) ∨ (c = '*' ∧ ∃ t, cs = '*' :: t) ∨
      c = '.' ∨ (c ≠ '%' ∧ c ≠ '#' ∧ ¬ ((c = '+' ∨ c = '-' ∨ c = '*' ∨ c = '/') ∧ cs.head? = some '=') ∧
        ¬ (c = '*' ∧ cs.head? = some '*') ∧ c ≠ '.') := by
  have head : ∀ x : Char, cs.head? = some x → ∃ t, cs = x :: t := by
    intro x hx
    cases cs with
    | nil => cases hx
    | cons d t => injection hx with hx; exact ⟨t, by rw [hx]⟩
  by_cases h1 : c = '%'; · exact .inl h1
  by_cases h2 : c = '#'; · exact .inr (.inl h2)
  by_cases hso : (c = '+' ∨ c = '-' ∨ c = '*' ∨ c = '/') ∧ cs.head? = some '='
  · exact .inr (.inr (.inl ⟨hso.1, head _ hso.2⟩))
  by_cases hpw : c = '*' ∧ cs.head? = some '*'
  · exact .inr (.inr (.inr (.inl ⟨hpw.1, head _ hpw.2⟩)))
  by_cases hd : c = '.'; · exact .inr (.inr (.inr (.inr (.inl hd))))
  exact .inr (.inr (.inr (.inr (.inr ⟨h1, h2, hso, hpw, hd⟩))))

theorem lexStep_blank (st : LexSt) (b : Char) (hb : isBlank b) (s : List Char) :
    lexStep st (b :: s) = .skip (st.shift 1) s := by
  unfold lexStep
  simp only [isBlank] at hb
  simp [hb, LexSt.shift]

theorem lexStep_lf (st : LexSt) (s : List Char) :
    lexStep st ('\n' :: s) = if st.depth = 0 then mkNL ['\n'] st 1 s else .skip ((st.shift 1).lshift 1) s := by
  simp [lexStep, LexSt.shift, LexSt.lshift]

theorem lexStep_crlf (st : LexSt) (s : List Char) :
    lexStep st ('\r' :: '\n' :: s) =
      if st.depth = 0 then mkNL ['\r', '\n'] st 2 s else .skip ((st.shift 2).lshift 1) s := by
  simp [lexStep, LexSt.shift, LexSt.lshift]

theorem lexStep_semi (st : LexSt) (s : List Char) : lexStep st (';' :: s) = mk .NEWLINE [';'] st 1 0 s := by
  simp [lexStep]

theorem lexStep_plain (st : LexSt) (c : Char) (s : List Char) (hb : ¬ isBlank c)
    (hr : ¬ (c = '\r' ∧ s.head? = some '\n')) (hn : c ≠ '\n') (hs : c ≠ ';') : lexStep st (c :: s) = lexBracket st c s := by
  have hb' : ¬ (c = ' ' ∨ c = '\t') := hb
  simp only [lexStep, if_neg hb', if_neg hr, if_neg hn, if_neg hs]

theorem lexBracket_word {c : Char} (hc : c ∉ ['(', ')', '[', ']', '{', '}']) (st : LexSt) (cs : List Char) :
    lexBracket st c cs = lexWord st c cs := by
  simp only [List.mem_cons, List.not_mem_nil, or_false, not_or] at hc
  obtain ⟨h1, h2, h3, h4, h5, h6⟩ := hc
  rw [lexBracket, if_neg h1, if_neg h2, if_neg h3, if_neg h4, if_neg h5, if_neg h6]

/-- a character that is no blank, line break, `;` or bracket goes to the rules for strings, numbers, names and operators -/
theorem lexStep_word {c : Char} (hc : c ∉ [' ', '\t', '\r', '\n', ';', '(', ')', '[', ']', '{', '}']) (st : LexSt)
    (cs : List Char) : lexStep st (c :: cs) = lexWord st c cs := by
  simp only [List.mem_cons, List.not_mem_nil, or_false, not_or] at hc
  obtain ⟨h1, h2, h3, h4, h5, hbr⟩ := hc
  rw [lexStep_plain st c cs (fun h => h.elim h1 h2) (fun h => h3 h.1) h4 h5, lexBracket_word (by simpa using hbr)]

theorem lexStep_hash (st : LexSt) (cs : List Char) :
    lexStep st ('#' :: cs) = .skip (st.shift (1 + (cs.length - (dropLine cs).length))) (dropLine cs) := by
  rw [← lexPunct_hash]
  simp [lexStep_word, lexWord, matchString, isQuote, classify]

theorem lexStep_comment (st : LexSt) (cs post : List Char) (hcs : nl cs = 0) (hp : post = [] ∨ ∃ t, post = '\n' :: t) :
    lexStep st ('#' :: (cs ++ post)) = .skip (st.shift (1 + cs.length)) post := by
  rw [lexStep_hash, dropLine_append cs post hcs, dropLine_fix post hp]
  congr 3
  simp only [List.length_append]
  omega

theorem lexStep_quote (st : LexSt) {q : Char} (hq : q = '"' ∨ q = '\'') {cs b r : List Char} (hb : strBody q cs = some (b, r)) :
    ∃ v, lexStep st (q :: cs) = mk .STRING v st (b.length + 2) 0 r := by
  rcases hq with rfl | rfl <;> simp [lexStep_word, lexWord, matchString, isQuote, hb] <;> exact ⟨_, rfl⟩

theorem lexStep_cases (c : Char) (cs : List Char) :
    isBlank c ∨ c = '\n' ∨ (c = '\r' ∧ ∃ t, cs = '\n' :: t) ∨ c = ';' ∨
      (¬ isBlank c ∧ ¬ (c = '\r' ∧ cs.head? = some '\n') ∧ c ≠ '\n' ∧ c ≠ ';') := by
  by_cases hb : isBlank c; · exact .inl hb
  by_cases hn : c = '\n'; · exact .inr (.inl hn)
  by_cases hr : c = '\r' ∧ cs.head? = some '\n'
  · obtain ⟨h1, h2⟩ := hr
    cases cs with
    | nil => cases h2
    | cons d t => injection h2 with h2; exact .inr (.inr (.inl ⟨h1, t, by rw [h2]⟩))
  by_cases hs : c = ';'; · exact .inr (.inr (.inr (.inl hs)))
  exact .inr (.inr (.inr (.inr ⟨hb, hr, hn, hs⟩)))

theorem lexBracket_cases (c : Char) :
    (∃ ty dd, ∀ st cs, lexBracket st c cs = mk ty [c] st 1 dd cs) ∨ ∀ st cs, lexBracket st c cs = lexWord st c cs := by
  unfold lexBracket
  by_cases h1 : c = '('; · exact .inl ⟨_, _, fun _ _ => by rw [if_pos h1, h1]⟩
  by_cases h2 : c = ')'; · exact .inl ⟨_, _, fun _ _ => by rw [if_neg h1, if_pos h2, h2]⟩
  by_cases h3 : c = '['; · exact .inl ⟨_, _, fun _ _ => by rw [if_neg h1, if_neg h2, if_pos h3, h3]⟩
  by_cases h4 : c = ']'; · exact .inl ⟨_, _, fun _ _ => by rw [if_neg h1, if_neg h2, if_neg h3, if_pos h4, h4]⟩
  by_cases h5 : c = '{'
  · exact .inl ⟨_, _, fun _ _ => by rw [if_neg h1, if_neg h2, if_neg h3, if_neg h4, if_pos h5, h5]⟩
  by_cases h6 : c = '}'
  · exact .inl ⟨_, _, fun _ _ => by rw [if_neg h1, if_neg h2, if_neg h3, if_neg h4, if_neg h5, if_pos h6, h6]⟩
  exact .inr fun _ _ => by rw [if_neg h1, if_neg h2, if_neg h3, if_neg h4, if_neg h5, if_neg h6]

/-- the texts a step passes over without delivering a token, at bracket depth `d` and in front of `rest`: a blank, a line
    break inside brackets, a comment up to the end of its line -/
def Skipped (d : Int) (pre rest : List Char) : Prop :=
  (∃ b, isBlank b ∧ pre = [b]) ∨ (d ≠ 0 ∧ (pre = ['\n'] ∨ pre = ['\r', '\n'])) ∨
    (∃ cm, pre = '#' :: cm ∧ nl cm = 0 ∧ (rest = [] ∨ ∃ t, rest = '\n' :: t))

/-- what one step did, by kind of result; of a step that ends in an error nothing is said.  The line counter moves by the line
    feeds of the text passed: that no token but a line break holds one enters where `mk_ok` asks `nl pre = 0`. -/
def ResOK (st : LexSt) (s : List Char) : LexRes → Prop
  | .tok t st' rest => (∃ pre, s = pre ++ rest ∧ pre ≠ [] ∧ st'.pos = st.pos + pre.length ∧ st'.line = st.line + nl pre)
      ∧ t.pos = st.pos ∧ t.line = st.line
  | .skip st' rest => ∃ pre, s = pre ++ rest ∧ st' = (st.shift pre.length).lshift (nl pre) ∧ Skipped st.depth pre rest
  | .eof => s = []
  | .err _ => True

theorem mk_ok {ty : Tk} {v : List Char} (st : LexSt) {dd : Int} (s pre rest : List Char)
    (e : s = pre ++ rest) (hne : pre ≠ []) (hn : nl pre = 0) : ResOK st s (mk ty v st pre.length dd rest) := by
  unfold mk
  exact ⟨⟨pre, e, hne, rfl, by simp [hn]⟩, rfl, rfl⟩

theorem mk1_ok {ty : Tk} (st : LexSt) {dd : Int} (c : Char) (cs : List Char) (hc : c ≠ '\n') :
    ResOK st (c :: cs) (mk ty [c] st 1 dd cs) :=
  mk_ok st (c :: cs) [c] cs rfl (by simp) (by rw [nl_cons_ne _ _ hc]; rfl)

theorem simpleOps_lits : ∀ p ∈ simpleOps, nl p.1 = 0 ∧ p.1 ≠ [] := by decide

theorem startsWith_split : ∀ (s p : List Char), Str.startsWith s p = true → s = p ++ s.drop p.length := by
  intro s p
  induction p generalizing s with
  | nil => intro _; simp
  | cons c cs ih =>
    intro h
    cases s with
    | nil => simp [Str.startsWith] at h
    | cons d ds =>
      simp [Str.startsWith] at h
      obtain ⟨rfl, h2⟩ := h
      simp [← ih ds h2]

/-- a hit of the operator table is an entry of the table and a prefix of the text -/
theorem matchSimple_spec {s lit : List Char} {ty : Tk} (h : matchSimple s = some (lit, ty)) :
    (lit, ty) ∈ simpleOps ∧ s = lit ++ s.drop lit.length :=
  ⟨List.mem_of_find?_eq_some h, startsWith_split _ _ (by simpa using List.find?_some h)⟩

theorem lexPunct_ok (st : LexSt) (c : Char) (cs : List Char) (hc : c ≠ '\n') : ResOK st (c :: cs) (lexPunct st c cs) := by
  rcases lexPunct_cases c cs with rfl | rfl | ⟨hop, t, rfl⟩ | ⟨rfl, t, rfl⟩ | rfl | ⟨h1, h2, hso, hpw, hd⟩
  · rw [lexPunct_pct]
    split
    · rename_i b rest hb
      obtain ⟨e, hn, _⟩ := pctBody_spec cs b rest hb
      have hlen : ('%' :: b ++ ['%']).length = b.length + 2 := by simp
      exact hlen ▸ mk_ok st ('%' :: cs) ('%' :: b ++ ['%']) rest (by simp [e]) (by simp)
        (by show nl ('%' :: (b ++ ['%'])) = 0; rw [nl_cons_ne _ _ (by decide), nl_append, hn]; decide)
    · trivial
  · obtain ⟨pre, e, hn⟩ := dropLine_spec cs
    rw [lexPunct_hash]
    refine ⟨'#' :: pre, by simp [← e], ?_, .inr (.inr ⟨pre, rfl, hn, dropLine_shape cs⟩)⟩
    have : cs.length = pre.length + (dropLine cs).length := by rw [← List.length_append, ← e]
    rw [nl_cons_ne _ _ (by decide), hn]
    simp only [LexSt.shift, LexSt.lshift, List.length_cons, Nat.add_zero, LexSt.mk.injEq, and_true]
    omega
  · rw [lexPunct_short st c hop]
    exact mk_ok st (c :: '=' :: t) [c, '='] t rfl (by simp) (by rw [nl_cons_ne _ _ hc]; decide)
  · rw [lexPunct_power]
    exact mk_ok st ('*' :: '*' :: t) ['*', '*'] t rfl (by simp) (by decide)
  · rw [lexPunct_dot]; exact mk1_ok st '.' cs hc
  · rw [lexPunct_simple st c cs h1 h2 hso hpw hd]
    split
    · rename_i lit ty hm
      obtain ⟨hmem, e⟩ := matchSimple_spec hm
      obtain ⟨hn, hne⟩ := simpleOps_lits (lit, ty) hmem
      exact mk_ok st (c :: cs) lit _ e hne hn
    · trivial

/-- no fraction follows: before `r` the number rule stops after the integer part -/
def NoFrac (r : List Char) : Prop := ∀ d r2, r = '.' :: d :: r2 → classify d ≠ .unknown ∧ classify d ≠ .digit

theorem lexNumber_int (st : LexSt) {c : Char} {ip r : List Char} (ht : Taken isDigitCC (c :: ip))
    (hs : SpanStops isDigitCC r) (hf : NoFrac r) :
    lexNumber st c (ip ++ r) = mk .NUMBER (c :: ip) st (c :: ip).length 0 r := by
  unfold lexNumber
  rw [← List.cons_append, spanClass_complete _ hs ht]
  simp only []
  split
  · rename_i d r2
    obtain ⟨h1, h2⟩ := hf d r2 rfl
    split
    · rename_i hu; exact absurd hu h1
    · rename_i hdg; exact absurd hdg h2
    · rfl
  · rfl

theorem lexNumber_frac (st : LexSt) {c d : Char} {ip fp r : List Char} (ht : Taken isDigitCC (c :: ip))
    (hd : classify d = .digit) (ht2 : Taken isDigitCC (d :: fp)) (hs : SpanStops isDigitCC r) :
    lexNumber st c (ip ++ '.' :: d :: (fp ++ r)) =
      mk .NUMBER (c :: ip ++ '.' :: d :: fp) st ((c :: ip).length + 1 + (d :: fp).length) 0 r := by
  unfold lexNumber
  rw [← List.cons_append, spanClass_complete _ (.inr ⟨'.', _, rfl, by decide, rfl⟩) ht]
  simp only [hd]
  rw [← List.cons_append, spanClass_complete _ hs ht2]

theorem lexNumber_cases (st : LexSt) {c : Char} (cs : List Char) (hd : classify c = .digit) :
    (∃ e, lexNumber st c cs = .err e) ∨
    (∃ ip r, cs = ip ++ r ∧ Taken isDigitCC (c :: ip) ∧ SpanStops isDigitCC r ∧ NoFrac r) ∨
    (∃ ip d fp r, cs = ip ++ '.' :: d :: (fp ++ r) ∧ Taken isDigitCC (c :: ip) ∧ classify d = .digit ∧
      Taken isDigitCC (d :: fp) ∧ SpanStops isDigitCC r) := by
  cases hsp : spanClass isDigitCC (c :: cs) with
  | none => exact .inl ⟨.unmodelled c, by rw [lexNumber, hsp]⟩
  | some p =>
    obtain ⟨ip0, rest⟩ := p
    obtain ⟨ip, rfl, e, ht, hs⟩ := spanClass_head isDigitCC (by rw [hd]; rfl) hsp
    by_cases hf : NoFrac rest
    · exact .inr (.inl ⟨ip, rest, e, ht, hs, hf⟩)
    · simp only [NoFrac, Classical.not_forall] at hf
      obtain ⟨d, r2, rfl, hcl⟩ := hf
      by_cases hu : classify d = .unknown
      · exact .inl ⟨.unmodelled d, by rw [lexNumber, hsp]; simp only [hu]⟩
      by_cases hdg : classify d = .digit
      · cases hsp2 : spanClass isDigitCC (d :: r2) with
        | none => exact .inl ⟨.unmodelled d, by rw [lexNumber, hsp]; simp only [hdg, hsp2]⟩
        | some p2 =>
          obtain ⟨fp0, r⟩ := p2
          obtain ⟨fp, rfl, e2, ht2, hs2⟩ := spanClass_head isDigitCC (by rw [hdg]; rfl) hsp2
          exact .inr (.inr ⟨ip, d, fp, r, by rw [e, e2], ht, hdg, ht2, hs2⟩)
      · exact absurd ⟨hu, hdg⟩ hcl

theorem lexNumber_ok (st : LexSt) (c : Char) (cs : List Char) (hd : classify c = .digit) :
    ResOK st (c :: cs) (lexNumber st c cs) := by
  rcases lexNumber_cases st cs hd with ⟨e, h⟩ | ⟨ip, r, rfl, ht, hs, hf⟩ | ⟨ip, d, fp, r, rfl, ht, hd', ht2, hs⟩
  · rw [h]; trivial
  · rw [lexNumber_int st ht hs hf]
    exact mk_ok st _ (c :: ip) r rfl (by simp) (ht.nl_eq rfl)
  · rw [lexNumber_frac st ht hd' ht2 hs]
    have hlen : (c :: ip ++ '.' :: d :: fp).length = (c :: ip).length + 1 + (d :: fp).length := by simp; omega
    exact hlen ▸ mk_ok st _ (c :: ip ++ '.' :: d :: fp) r (by simp) (by simp)
      (by rw [nl_append, ht.nl_eq rfl, nl_cons_ne _ _ (by decide), ht2.nl_eq rfl])

/-- the string rule looks at two characters to choose its form: a quote, or `r` and a quote -/
theorem matchString_none {c : Char} {x : List Char} (hq : isQuote c = false)
    (hr : c = 'r' → ∀ q, x.head? = some q → isQuote q = false) : matchString (c :: x) = none := by
  unfold matchString
  split
  · rename_i q cs heq
    injection heq with h1 h2
    rw [hr h1 q (by rw [h2]; rfl)]
    rfl
  · rename_i q cs _ heq; injection heq with h1 _; subst h1; simp [hq]
  · rename_i heq; cases heq

/-- behind a word the string rule fails, unless the word is `r` and a quote follows -/
theorem matchString_word {c : Char} {w r : List Char} (ht : Taken isWordCC (c :: w))
    (hraw : c = 'r' → w = [] → ∀ q, r.head? = some q → isQuote q = false) : matchString (c :: (w ++ r)) = none := by
  have word : ∀ x ∈ c :: w, isQuote x = false := fun x hx =>
    not_quote_of_class x fun ho => by have := (ht x hx).2; rw [ho] at this; cases this
  refine matchString_none (word c (by simp)) fun hr q hq => ?_
  cases w with
  | nil => exact hraw hr rfl q hq
  | cons x xs => injection hq with hq; exact hq ▸ word x (by simp)

theorem matchString_r (x : List Char) : matchString ('r' :: x) =
    match x with
    | q :: cs => if isQuote q then (match strBody q cs with | some (b, r) => some (b, b.length + 3, r) | none => none) else none
    | [] => none := by
  cases x with
  | nil => simp [matchString, isQuote]
  | cons q cs =>
    simp only [matchString]
    split
    · cases strBody q cs <;> rfl
    · rfl

theorem matchString_spec {s v : List Char} {n : Nat} {rest : List Char} (h : matchString s = some (v, n, rest)) :
    ∃ c u, s = c :: (u ++ rest) ∧ (c :: u).length = n ∧ nl (c :: u) = 0 ∧
      ∀ z, matchString (c :: (u ++ z)) = some (v, n, z) := by
  have quoted : ∀ {q : Char} {cs b r : List Char}, isQuote q = true → strBody q cs = some (b, r) →
      cs = b ++ q :: r ∧ nl (q :: (b ++ [q])) = 0 ∧ ∀ z, strBody q (b ++ q :: z) = some (b, z) := by
    intro q cs b r hq hb
    obtain ⟨e, hn, hany⟩ := strBody_spec q cs b r hb
    have hqn : q ≠ '\n' := by rintro rfl; exact absurd hq (by decide)
    exact ⟨e, by rw [nl_cons_ne _ _ hqn, nl_append, hn, nl_cons_ne _ _ hqn]; rfl, hany⟩
  unfold matchString at h
  split at h
  · rename_i q cs
    split at h
    · rename_i hq
      split at h
      · rename_i b r hb
        simp at h; obtain ⟨rfl, rfl, rfl⟩ := h
        obtain ⟨e, hn, hany⟩ := quoted hq hb
        refine ⟨'r', q :: (b ++ [q]), by simp [e], by simp, by rw [nl_cons_ne _ _ (by decide)]; exact hn, fun z => ?_⟩
        simp only [List.cons_append, List.append_assoc, List.nil_append, matchString.eq_1, hq, if_true, hany z]
      · simp at h
    · simp at h
  · rename_i q cs hnr
    split at h
    · rename_i hq
      split at h
      · rename_i b r hb
        simp at h; obtain ⟨rfl, rfl, rfl⟩ := h
        obtain ⟨e, hn, hany⟩ := quoted hq hb
        refine ⟨q, b ++ [q], by simp [e], by simp, hn, fun z => ?_⟩
        -- the raw form does not apply: `q` is a quote, not the letter `r`
        rw [matchString.eq_2 _ _ (fun _ _ hqr _ => by rw [hqr] at hq; cases hq)]
        simp only [List.append_assoc, List.cons_append, List.nil_append, hq, if_true, hany z]
      · simp at h
    · simp at h
  · simp at h

theorem lexWord_string (st : LexSt) {c : Char} {cs v rest : List Char} {n : Nat}
    (h : matchString (c :: cs) = some (v, n, rest)) : lexWord st c cs = mk .STRING v st n 0 rest := by
  rw [lexWord, h]

theorem lexWord_digit (st : LexSt) {c : Char} (cs : List Char) (hd : classify c = .digit) :
    lexWord st c cs = lexNumber st c cs := by
  have hr : c ≠ 'r' := by rintro rfl; exact absurd hd (by decide)
  rw [lexWord, matchString_none (not_quote_of_class c (by rw [hd]; decide)) (fun e => absurd e hr)]
  simp only [hd]

theorem lexWord_punct (st : LexSt) {c : Char} (cs : List Char) (ho : classify c = .other) (hq : isQuote c = false) :
    lexWord st c cs = lexPunct st c cs := by
  have hr : c ≠ 'r' := by rintro rfl; exact absurd ho (by decide)
  rw [lexWord, matchString_none hq (fun e => absurd e hr)]
  simp only [ho]

/-- the name rule applies where the string rule does not: `r` before a quote may open a raw string (`matchString_word` gives
    `hm` from the text) -/
theorem lexWord_name (st : LexSt) {c : Char} {w r : List Char} (hl : classify c = .letter) (ht : Taken isWordCC (c :: w))
    (hs : SpanStops isWordCC r) (hm : matchString (c :: (w ++ r)) = none) :
    lexWord st c (w ++ r) = mk (lookupReserved (c :: w)) (c :: w) st (c :: w).length 0 r := by
  rw [lexWord, hm]
  simp only [hl]
  rw [← List.cons_append, spanClass_complete _ hs ht]

theorem lexWord_cases (st : LexSt) (c : Char) (cs : List Char) :
    (∃ e, lexWord st c cs = .err e) ∨ (∃ v n rest, matchString (c :: cs) = some (v, n, rest)) ∨ classify c = .digit ∨
    (classify c = .letter ∧ matchString (c :: cs) = none ∧
      ∃ w r, cs = w ++ r ∧ Taken isWordCC (c :: w) ∧ SpanStops isWordCC r) ∨
    (classify c = .other ∧ isQuote c = false) := by
  cases hm : matchString (c :: cs) with
  | some p => exact .inr (.inl ⟨p.1, p.2.1, p.2.2, rfl⟩)
  | none =>
    cases hcl : classify c with
    | unknown => exact .inl ⟨.unmodelled c, by rw [lexWord, hm]; simp only [hcl]⟩
    | digit => exact .inr (.inr (.inl rfl))
    | letter =>
      cases hsp : spanClass isWordCC (c :: cs) with
      | none => exact .inl ⟨.unmodelled c, by rw [lexWord, hm]; simp only [hcl, hsp]⟩
      | some p =>
        obtain ⟨w0, r⟩ := p
        obtain ⟨w, rfl, e, ht, hs⟩ := spanClass_head isWordCC (by rw [hcl]; rfl) hsp
        exact .inr (.inr (.inr (.inl ⟨rfl, rfl, w, r, e, ht, hs⟩)))
    | other =>
      cases hq : isQuote c with
      | false => exact .inr (.inr (.inr (.inr ⟨rfl, rfl⟩)))
      | true =>
        -- a quote that opens no string falls through to the operators, which know none
        exact .inl ⟨.illegal c st.pos, by rw [lexWord, hm]; simp only [hcl]; exact lexPunct_quote st c cs hq⟩

theorem lexWord_ok (st : LexSt) (c : Char) (cs : List Char) (hc : c ≠ '\n') : ResOK st (c :: cs) (lexWord st c cs) := by
  rcases lexWord_cases st c cs with ⟨e, h⟩ | ⟨v, n, rest, hm⟩ | hd | ⟨hl, hm, w, r, rfl, ht, hs⟩ | ⟨ho, hq⟩
  · rw [h]; trivial
  · rw [lexWord_string st hm]
    obtain ⟨c', u, e, hl, hn, _⟩ := matchString_spec hm
    exact hl ▸ mk_ok st (c :: cs) (c' :: u) rest e (by simp) hn
  · rw [lexWord_digit st cs hd]; exact lexNumber_ok st c cs hd
  · rw [lexWord_name st hl ht hs hm]
    exact mk_ok st _ (c :: w) r rfl (by simp) (ht.nl_eq rfl)
  · rw [lexWord_punct st cs ho hq]; exact lexPunct_ok st c cs hc

theorem lexBracket_ok (st : LexSt) (c : Char) (cs : List Char) (hc : c ≠ '\n') : ResOK st (c :: cs) (lexBracket st c cs) := by
  rcases lexBracket_cases c with ⟨ty, dd, h⟩ | h
  · rw [h]; exact mk1_ok st c cs hc
  · rw [h]; exact lexWord_ok st c cs hc

theorem lexStep_ok (st : LexSt) (s : List Char) : ResOK st s (lexStep st s) := by
  cases s with
  | nil => rfl
  | cons c cs =>
    rcases lexStep_cases c cs with hb | rfl | ⟨rfl, t, rfl⟩ | rfl | ⟨hb, hr, hn, hs⟩
    · rw [lexStep_blank st c hb]
      have hc : c ≠ '\n' := by rcases hb with h | h <;> (subst h; decide)
      exact ⟨[c], rfl, by rw [nl_cons_ne _ _ hc]; rfl, .inl ⟨c, hb, rfl⟩⟩
    · rw [lexStep_lf]
      split
      · exact ⟨⟨['\n'], rfl, by simp, rfl, rfl⟩, rfl, rfl⟩
      · rename_i hd; exact ⟨['\n'], rfl, rfl, .inr (.inl ⟨hd, .inl rfl⟩)⟩
    · rw [lexStep_crlf]
      split
      · exact ⟨⟨['\r', '\n'], rfl, by simp, rfl, rfl⟩, rfl, rfl⟩
      · rename_i hd; exact ⟨['\r', '\n'], rfl, rfl, .inr (.inl ⟨hd, .inr rfl⟩)⟩
    · rw [lexStep_semi]; exact mk1_ok st ';' cs (by decide)
    · rw [lexStep_plain st c cs hb hr hn hs]; exact lexBracket_ok st c cs hn

theorem lexStep_stamp {st st' : LexSt} {s r : List Char} {t : Token} (h : lexStep st s = .tok t st' r) :
    t.pos = st.pos ∧ t.line = st.line := by
  have hok := lexStep_ok st s
  rw [h] at hok
  exact hok.2

theorem lexStep_advance {st st' : LexSt} {s r : List Char}
    (h : (∃ t, lexStep st s = .tok t st' r) ∨ lexStep st s = .skip st' r) :
    ∃ pre, s = pre ++ r ∧ pre ≠ [] ∧ st'.pos = st.pos + pre.length ∧ st'.line = st.line + nl pre := by
  have hok := lexStep_ok st s
  rcases h with ⟨t, h⟩ | h
  · rw [h] at hok; exact hok.1
  · rw [h] at hok
    obtain ⟨pre, e, rfl, hk⟩ := hok
    refine ⟨pre, e, ?_, rfl, rfl⟩
    rcases hk with ⟨_, _, rfl⟩ | ⟨_, rfl | rfl⟩ | ⟨_, rfl, _⟩ <;> simp

theorem lexStep_shorter {st st' : LexSt} {s r : List Char}
    (h : (∃ t, lexStep st s = .tok t st' r) ∨ lexStep st s = .skip st' r) : r.length < s.length := by
  obtain ⟨pre, e, hne, _⟩ := lexStep_advance h
  rw [e, List.length_append]
  exact Nat.lt_add_of_pos_left (List.length_pos_iff.mpr hne)

theorem lexAllAux_fuel : ∀ (n m : Nat) (st : LexSt) (s : List Char) (acc : List Token), s.length < n → s.length < m →
    lexAllAux n st s acc = lexAllAux m st s acc := by
  intro n
  induction n with
  | zero => intro m st s acc h; omega
  | succ n ih =>
    intro m st s acc hn hm
    obtain ⟨m, rfl⟩ : ∃ k, m = k + 1 := ⟨m - 1, by omega⟩
    rw [lexAllAux, lexAllAux]
    cases hr : lexStep st s with
    | eof => rfl
    | err e => rfl
    | skip st' rest =>
      have hl := lexStep_shorter (.inr hr)
      exact ih m st' rest acc (by omega) (by omega)
    | tok t st' rest =>
      have hl := lexStep_shorter (.inl ⟨t, hr⟩)
      exact ih m st' rest (t :: acc) (by omega) (by omega)

abbrev LexOut := Except (LexErr × List Token) (List Token × LexSt)

def lexAll (st : LexSt) (s : List Char) (acc : List Token) : LexOut := lexAllAux (s.length + 1) st s acc

theorem lexFrom_eq (st : LexSt) (s : List Char) : lexFrom st s = lexAll st s [] := rfl

theorem lexAll_step (st : LexSt) (s : List Char) (acc : List Token) :
    lexAll st s acc = (match lexStep st s with
      | .eof => .ok (acc.reverse, st)
      | .err e => .error (e, acc.reverse)
      | .skip st' rest => lexAll st' rest acc
      | .tok t st' rest => lexAll st' rest (t :: acc)) := by
  unfold lexAll
  rw [lexAllAux]
  cases hr : lexStep st s with
  | eof => rfl
  | err e => rfl
  | skip st' rest => exact lexAllAux_fuel _ _ st' rest acc (lexStep_shorter (.inr hr)) (Nat.lt_succ_self _)
  | tok t st' rest => exact lexAllAux_fuel _ _ st' rest (t :: acc) (lexStep_shorter (.inl ⟨t, hr⟩)) (Nat.lt_succ_self _)

def tokensOf : Except (LexErr × List Token) (List Token × LexSt) → List Token
  | .ok (ts, _) => ts
  | .error (_, ts) => ts

/-- lexing from `(st, s)` with `acc` delivered arrives, after some steps, at the point where `post` remains -/
inductive LexReach (post : List Char) : LexSt → List Char → List Token → LexSt → List Token → Prop
  | here (st : LexSt) (acc : List Token) : LexReach post st post acc st acc
  | tok {st s t st' r acc st1 acc1} : lexStep st s = .tok t st' r → LexReach post st' r (t :: acc) st1 acc1 →
      LexReach post st s acc st1 acc1
  | skip {st s st' r acc st1 acc1} : lexStep st s = .skip st' r → LexReach post st' r acc st1 acc1 →
      LexReach post st s acc st1 acc1

/-- the invariant of the token loop: the offset counts the characters passed, the line counter their line feeds -/
theorem reach_advance {post : List Char} {st s acc st1 acc1} (h : LexReach post st s acc st1 acc1) :
    ∃ u, s = u ++ post ∧ st1.pos = st.pos + u.length ∧ st1.line = st.line + nl u := by
  have step : ∀ {st st' st1 : LexSt} {s r : List Char},
      (∃ pre, s = pre ++ r ∧ pre ≠ [] ∧ st'.pos = st.pos + pre.length ∧ st'.line = st.line + nl pre) →
      (∃ u, r = u ++ post ∧ st1.pos = st'.pos + u.length ∧ st1.line = st'.line + nl u) →
      ∃ u, s = u ++ post ∧ st1.pos = st.pos + u.length ∧ st1.line = st.line + nl u := by
    rintro st st' st1 s r ⟨pre, e, _, hp, hl⟩ ⟨u, eu, hp1, hl1⟩
    exact ⟨pre ++ u, by rw [e, eu, List.append_assoc], by rw [hp1, hp, List.length_append]; omega,
      by rw [hl1, hl, nl_append]; omega⟩
  induction h with
  | here => exact ⟨[], rfl, rfl, rfl⟩
  | tok hs _ ih => exact step (lexStep_advance (.inl ⟨_, hs⟩)) ih
  | skip hs _ ih => exact step (lexStep_advance (.inr hs)) ih

theorem reach_lexAll {post : List Char} {st s acc st1 acc1} (h : LexReach post st s acc st1 acc1) :
    lexAll st s acc = lexAll st1 post acc1 := by
  induction h with
  | here => rfl
  | tok hs _ ih => rw [lexAll_step, hs]; exact ih
  | skip hs _ ih => rw [lexAll_step, hs]; exact ih

theorem reach_self {post : List Char} {st acc st1 acc1} (h : LexReach post st post acc st1 acc1) : st1 = st ∧ acc1 = acc := by
  -- a first step would leave a shorter text, of which `post` is a suffix again
  have none : ∀ {st' r acc'}, r.length < post.length → LexReach post st' r acc' st1 acc1 → False := by
    intro st' r acc' hl hrest
    obtain ⟨u, eu, _⟩ := reach_advance hrest
    rw [eu, List.length_append] at hl
    omega
  cases h with
  | here => exact ⟨rfl, rfl⟩
  | tok hs hrest => exact (none (lexStep_shorter (.inl ⟨_, hs⟩)) hrest).elim
  | skip hs hrest => exact (none (lexStep_shorter (.inr hs)) hrest).elim

theorem reach_next {post : List Char} {st s acc st1 acc1} (h : LexReach post st s acc st1 acc1) :
    s = post ∨ ∀ e, lexStep st s ≠ .err e := by
  cases h with
  | here => exact Or.inl rfl
  | tok hs _ => exact Or.inr (fun e he => by rw [hs] at he; cases he)
  | skip hs _ => exact Or.inr (fun e he => by rw [hs] at he; cases he)

/-- where the tokens of the output come from: each is delivered by a step at a point the loop passes through -/
theorem tokens_reached (st : LexSt) (s : List Char) : ∀ t ∈ tokensOf (lexFrom st s),
    ∃ post st1 acc1 st' r, LexReach post st s [] st1 acc1 ∧ lexStep st1 post = .tok t st' r := by
  have aux : ∀ fuel st s acc, ∀ t ∈ tokensOf (lexAllAux fuel st s acc), t ∈ acc ∨
      ∃ post st1 acc1 st' r, LexReach post st s acc st1 acc1 ∧ lexStep st1 post = .tok t st' r := by
    intro fuel st s acc
    fun_induction lexAllAux fuel st s acc with
    | case1 st s acc => intro t ht; exact .inl (by simpa [tokensOf] using ht)
    | case2 fuel st s acc hstep => intro t ht; exact .inl (by simpa [tokensOf] using ht)
    | case3 fuel st s acc e hstep => intro t ht; exact .inl (by simpa [tokensOf] using ht)
    | case4 fuel st s acc st' rest hstep ih =>
      intro t ht
      rcases ih t ht with h | ⟨post, st1, acc1, st2, r, hr, hs⟩
      · exact .inl h
      · exact .inr ⟨post, st1, acc1, st2, r, .skip hstep hr, hs⟩
    | case5 fuel st s acc tk st' rest hstep ih =>
      intro t ht
      rcases ih t ht with h | ⟨post, st1, acc1, st2, r, hr, hs⟩
      · rcases List.mem_cons.mp h with rfl | h
        · exact .inr ⟨s, st, acc, st', rest, .here st acc, hstep⟩
        · exact .inl h
      · exact .inr ⟨post, st1, acc1, st2, r, .tok hstep hr, hs⟩
  intro t ht
  rcases aux _ st s [] t ht with h | h
  · cases h
  · exact h

open Proto in
theorem parseText_ok_iff (st : LexSt) (src : List Char) (tree : Op) :
    parseText st src = .ok tree ↔ ∃ ts stf, lexFrom st src = .ok (ts, stf) ∧ parseTokens ts = .ok tree := by
  unfold parseText
  cases hl : lexFrom st src with
  | error p =>
    obtain ⟨e, ts⟩ := p
    cases e <;> simp
  | ok p =>
    obtain ⟨ts, stf⟩ := p
    cases hp : parseTokens ts with
    | ok t => simp [hp]
    | error e => cases e <;> simp [hp]

open Proto in
theorem parseText_syn {st stf : LexSt} {src : List Char} {ts rest : List Token} (hl : lexFrom st src = .ok (ts, stf))
    (hp : parseTokens ts = .error (.syn rest)) :
    parseText st src = .synErr (rest.head?.map (·.pos)) (syntaxMessage rest) := by
  unfold parseText
  rw [hl]
  simp only [hp]

end Sq
