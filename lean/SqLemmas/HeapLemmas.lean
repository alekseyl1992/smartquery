/-
  The lowest lemma file.  Two general facts about `Except` that the lemmas on model functions use (`map_eq_ok`; `foldlM_ok`,
  an invariant of a successful fold); reading a heap after `push` / `set` (allocation, replacement of one object); and the
  relation `HeapExt` (C13: every existing object stays) with allocation as its first instance.
-/
import Sq.Value
namespace Sq

theorem map_eq_ok {ε α β : Type} {r : Except ε α} {f : α → β} {b : β} (h : r.map f = .ok b) :
    ∃ a, r = .ok a ∧ f a = b := by
  cases r with
  | ok a => exact ⟨a, rfl, Except.ok.inj h⟩
  | error e => cases h

/-- a property that every successful step of a fold keeps (for the elements of the list) holds of the result of a successful fold -/
theorem foldlM_ok {ε α β : Type} {f : β → α → Except ε β} (I : β → Prop) :
    ∀ (xs : List α), (∀ b a b', a ∈ xs → I b → f b a = .ok b' → I b') → ∀ b b', I b → xs.foldlM f b = .ok b' → I b'
  | [], _, _, _, hb, h => by cases h; exact hb
  | x :: xs, hf, b, b', hb, h => by
    rw [List.foldlM_cons] at h
    cases hx : f b x with
    | error e => rw [hx] at h; cases h
    | ok b1 =>
      rw [hx] at h
      exact foldlM_ok I xs (fun b a b' ha => hf b a b' (List.mem_cons_of_mem _ ha)) b1 b'
        (hf b x b1 (List.mem_cons_self ..) hb hx) h

theorem get?_push (h : Heap) (o : HObj) (a : Nat) :
    Heap.get? (h.push o) a = if a = h.size then some o else Heap.get? h a := by
  unfold Heap.get?
  rw [Array.getElem?_push]

theorem get?_push_lt (h : Heap) (o : HObj) {a : Nat} (ha : a < h.size) : Heap.get? (h.push o) a = Heap.get? h a := by
  rw [get?_push, if_neg (Nat.ne_of_lt ha)]

theorem get?_set (h : Heap) (a b : Nat) (o : HObj) :
    Heap.get? (h.set a o) b = if a = b ∧ a < h.size then some o else Heap.get? h b := by
  unfold Heap.get? Heap.set
  rw [Array.getElem?_setIfInBounds]
  by_cases hab : a = b
  · subst hab
    by_cases hl : a < h.size
    · simp [hl]
    · simp [hl]
  · simp [hab]

theorem get?_set_ne (h : Heap) {a b : Nat} (hab : a ≠ b) (o : HObj) : Heap.get? (h.set a o) b = Heap.get? h b := by
  rw [get?_set, if_neg fun e => hab e.1]

theorem get?_set_self {h : Heap} {a : Nat} (ha : a < h.size) (o : HObj) : Heap.get? (h.set a o) a = some o := by
  rw [get?_set, if_pos ⟨rfl, ha⟩]

theorem of_get?_push {h : Heap} {o ob : HObj} {a : Nat} (hg : Heap.get? (h.push o) a = some ob) :
    o = ob ∨ Heap.get? h a = some ob := by
  rw [get?_push] at hg
  split at hg
  · exact .inl (Option.some.inj hg)
  · exact .inr hg

theorem of_get?_set {h : Heap} {o ob : HObj} {a b : Nat} (hg : Heap.get? (h.set a o) b = some ob) :
    o = ob ∨ Heap.get? h b = some ob := by
  rw [get?_set] at hg
  split at hg
  · exact .inl (Option.some.inj hg)
  · exact .inr hg

theorem size_set (h : Heap) (a : Nat) (o : HObj) : (h.set a o).size = h.size := by
  simp [Heap.set]

theorem get_lt {h : Heap} {a : Nat} {o : HObj} (hg : h.get? a = some o) : a < h.size :=
  (Array.getElem?_eq_some_iff.mp hg).1

theorem heap_set_same (h : Heap) (a : Nat) (o : HObj) (hg : h.get? a = some o) : h.set a o = h := by
  obtain ⟨hl, e⟩ := Array.getElem?_eq_some_iff.mp hg
  unfold Heap.set
  rw [Array.setIfInBounds, dif_pos hl, ← e, Array.set_getElem_self]

end Sq

namespace SqProps.C13
open Sq

/-- all existing objects are preserved -/
def HeapExt (h h' : Heap) : Prop := h.size ≤ h'.size ∧ ∀ a, a < h.size → h'.get? a = h.get? a

theorem HeapExt.refl (h : Heap) : HeapExt h h := ⟨Nat.le_refl _, fun _ _ => rfl⟩

theorem HeapExt.trans {a b c : Heap} (h1 : HeapExt a b) (h2 : HeapExt b c) : HeapExt a c :=
  ⟨Nat.le_trans h1.1 h2.1, fun x hx => by rw [h2.2 x (Nat.lt_of_lt_of_le hx h1.1), h1.2 x hx]⟩

theorem alloc_ext (h : Heap) (o : HObj) : HeapExt h (h.alloc o).1 :=
  ⟨by simp [Heap.alloc], fun _ ha => get?_push_lt h o ha⟩

end SqProps.C13
