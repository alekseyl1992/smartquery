/-
  What a slice selects (C14).  `sliceIndices` transcribes `slice.indices` followed by `range`: both bounds are brought into
  `0 .. n` (positive step) or `-1 .. n-1` (negative step), and the positions are `start, start + step, …` up to `stop`; the
  facts below are read off that description.  (The grammar spells a step only as `[::k]`, without bounds.)
-/
import Sq.Prim
namespace Sq

/-! The six definitions below are the `let`s of `sliceIndices` (Sq/Prim.lean) with the same bodies, so that `sliceIndices_eq`
holds by unfolding. -/

def sliceLower (step : Int) : Int := if step < 0 then -1 else 0

def sliceUpper (n : Nat) (step : Int) : Int := if step < 0 then (n : Int) - 1 else n

def sliceNorm (n : Nat) (step x : Int) : Int :=
  if x < 0 then max (x + n) (sliceLower step) else min x (sliceUpper n step)

def sliceStart (n : Nat) (step : Int) : Option Int → Int
  | none => if step < 0 then sliceUpper n step else sliceLower step
  | some x => sliceNorm n step x

def sliceStop (n : Nat) (step : Int) : Option Int → Int
  | none => if step < 0 then sliceLower step else sliceUpper n step
  | some x => sliceNorm n step x

def sliceRange (start stop step : Int) : List Nat :=
  (List.range (if step > 0 then (if start < stop then ((stop - start - 1) / step + 1).toNat else 0)
      else (if start > stop then ((start - stop - 1) / (-step) + 1).toNat else 0))).map
    (fun (k : Nat) => (start + step * (k : Int)).toNat)

theorem sliceIndices_eq (n : Nat) (a b c : Option Int) :
    sliceIndices n a b c = if c.getD 1 = 0 then .error .valueError
      else .ok (sliceRange (sliceStart n (c.getD 1) a) (sliceStop n (c.getD 1) b) (c.getD 1)) := by
  cases a <;> cases b <;> rfl

theorem sliceIndices_of_step {n : Nat} {a b c : Option Int} {step : Int} (hc : c.getD 1 = step) (h0 : step ≠ 0) :
    sliceIndices n a b c = .ok (sliceRange (sliceStart n step a) (sliceStop n step b) step) := by
  subst hc
  rw [sliceIndices_eq, if_neg h0]

theorem sliceIndices_ok {n : Nat} {a b c : Option Int} {idx : List Nat} (h : sliceIndices n a b c = .ok idx) :
    c.getD 1 ≠ 0 ∧ idx = sliceRange (sliceStart n (c.getD 1) a) (sliceStop n (c.getD 1) b) (c.getD 1) := by
  rw [sliceIndices_eq] at h
  split at h
  · cases h
  · rename_i hz
    cases h
    exact ⟨hz, rfl⟩

theorem sliceLower_pos {step : Int} (h : 0 < step) : sliceLower step = 0 := if_neg (Int.not_lt.mpr (Int.le_of_lt h))
theorem sliceUpper_pos (n : Nat) {step : Int} (h : 0 < step) : sliceUpper n step = n := if_neg (Int.not_lt.mpr (Int.le_of_lt h))
theorem sliceLower_neg {step : Int} (h : step < 0) : sliceLower step = -1 := if_pos h
theorem sliceUpper_neg (n : Nat) {step : Int} (h : step < 0) : sliceUpper n step = n - 1 := if_pos h

theorem slice_lower_upper (n : Nat) (step : Int) :
    sliceLower step ≤ 0 ∧ sliceLower step ≤ sliceUpper n step ∧ (n : Int) - 1 ≤ sliceUpper n step := by
  unfold sliceLower sliceUpper
  split <;> omega

theorem sliceNorm_mem (n : Nat) (step x : Int) :
    sliceLower step ≤ sliceNorm n step x ∧ sliceNorm n step x ≤ sliceUpper n step := by
  obtain ⟨h0, hlu, hu⟩ := slice_lower_upper n step
  unfold sliceNorm
  split
  · exact ⟨Int.le_max_right _ _, Int.max_le.mpr ⟨by omega, hlu⟩⟩
  · exact ⟨Int.le_min.mpr ⟨by omega, hlu⟩, Int.min_le_right _ _⟩

theorem sliceStart_mem (n : Nat) (step : Int) (a : Option Int) :
    sliceLower step ≤ sliceStart n step a ∧ sliceStart n step a ≤ sliceUpper n step := by
  cases a with
  | some x => exact sliceNorm_mem n step x
  | none =>
    simp only [sliceStart]
    split
    · exact ⟨(slice_lower_upper n step).2.1, Int.le_refl _⟩
    · exact ⟨Int.le_refl _, (slice_lower_upper n step).2.1⟩

theorem sliceStop_mem (n : Nat) (step : Int) (b : Option Int) :
    sliceLower step ≤ sliceStop n step b ∧ sliceStop n step b ≤ sliceUpper n step := by
  cases b with
  | some x => exact sliceNorm_mem n step x
  | none =>
    simp only [sliceStop]
    split
    · exact ⟨Int.le_refl _, (slice_lower_upper n step).2.1⟩
    · exact ⟨(slice_lower_upper n step).2.1, Int.le_refl _⟩

/-- all that the general facts about a slice use of its bounds -/
theorem slice_ends (n : Nat) (step : Int) (a b : Option Int) :
    (0 < step → 0 ≤ sliceStart n step a ∧ sliceStop n step b ≤ n) ∧
    (step < 0 → sliceStart n step a ≤ n - 1 ∧ -1 ≤ sliceStop n step b) :=
  ⟨fun h => ⟨sliceLower_pos h ▸ (sliceStart_mem n step a).1, sliceUpper_pos n h ▸ (sliceStop_mem n step b).2⟩,
   fun h => ⟨sliceUpper_neg n h ▸ (sliceStart_mem n step a).2, sliceLower_neg h ▸ (sliceStop_mem n step b).1⟩⟩

theorem cnt_le (d s : Int) (n : Nat) (hs : 0 < s) (hd : d ≤ n) : ((d - 1) / s + 1).toNat ≤ n := by
  rw [Int.toNat_le]
  rcases Int.lt_or_le (d - 1) 0 with h | h
  · have : (d - 1) / s < 0 := Int.ediv_neg_of_neg_of_pos h hs
    omega
  · have := Int.ediv_le_self (b := s) h
    omega

theorem lt_cnt (d s : Int) (k : Nat) (hs : 0 < s) (hk : k < ((d - 1) / s + 1).toNat) :
    0 ≤ s * (k : Int) ∧ s * (k : Int) ≤ d - 1 := by
  have hq : (k : Int) ≤ (d - 1) / s := by omega
  exact ⟨Int.mul_nonneg (Int.le_of_lt hs) (Int.natCast_nonneg k), Int.mul_comm s k ▸ (Int.le_ediv_iff_mul_le hs).mp hq⟩

theorem count_le (start stop step : Int) (n : Nat) (hz : step ≠ 0)
    (hpos : 0 < step → 0 ≤ start ∧ stop ≤ n) (hneg : step < 0 → start ≤ n - 1 ∧ -1 ≤ stop) :
    (if step > 0 then (if start < stop then ((stop - start - 1) / step + 1).toNat else 0)
      else (if start > stop then ((start - stop - 1) / (-step) + 1).toNat else 0)) ≤ n := by
  by_cases hp : step > 0
  · rw [if_pos hp]
    split
    · exact cnt_le _ _ _ hp (Int.le_trans (Int.sub_le_self _ (hpos hp).1) (hpos hp).2)
    · exact Nat.zero_le _
  · rw [if_neg hp]
    have hn : step < 0 := by omega
    split
    · exact cnt_le _ _ _ (Int.neg_pos_of_neg hn) (by have := hneg hn; omega)
    · exact Nat.zero_le _

theorem idx_in (start stop step : Int) (n k : Nat) (hz : step ≠ 0)
    (hpos : 0 < step → 0 ≤ start ∧ stop ≤ n) (hneg : step < 0 → start ≤ n - 1 ∧ -1 ≤ stop)
    (hk : k < (if step > 0 then (if start < stop then ((stop - start - 1) / step + 1).toNat else 0)
      else (if start > stop then ((start - stop - 1) / (-step) + 1).toNat else 0))) :
    0 ≤ start + step * (k : Int) ∧ start + step * (k : Int) < n := by
  by_cases hp : step > 0
  · rw [if_pos hp] at hk
    split at hk
    · have := lt_cnt _ _ k hp hk
      have := hpos hp
      omega
    · exact absurd hk (Nat.not_lt_zero k)
  · rw [if_neg hp] at hk
    have hn : step < 0 := by omega
    split at hk
    · have := lt_cnt _ _ k (Int.neg_pos_of_neg hn) hk
      rw [Int.neg_mul] at this
      have := hneg hn
      omega
    · exact absurd hk (Nat.not_lt_zero k)

theorem sliceIndices_length_le (n : Nat) (a b c : Option Int) (idx : List Nat)
    (h : sliceIndices n a b c = .ok idx) : idx.length ≤ n := by
  obtain ⟨hz, rfl⟩ := sliceIndices_ok h
  unfold sliceRange
  rw [List.length_map, List.length_range]
  exact count_le _ _ _ n hz (slice_ends n _ a b).1 (slice_ends n _ a b).2

theorem sliceIndices_mem_lt (n : Nat) (a b c : Option Int) (idx : List Nat)
    (h : sliceIndices n a b c = .ok idx) : ∀ i, i ∈ idx → i < n := by
  obtain ⟨hz, rfl⟩ := sliceIndices_ok h
  intro i hi
  obtain ⟨k, hk, rfl⟩ := List.mem_map.mp hi
  have := idx_in _ _ _ n k hz (slice_ends n _ a b).1 (slice_ends n _ a b).2 (List.mem_range.mp hk)
  omega

theorem pick_cons_of_lt {α : Type} (xs : List α) {i : Nat} (r : List Nat) (hi : i < xs.length) :
    pick xs (i :: r) = xs[i] :: pick xs r := by
  unfold pick; simp [List.getElem?_eq_getElem hi]

theorem pick_length {α : Type} (xs : List α) (idx : List Nat) (hb : ∀ i, i ∈ idx → i < xs.length) :
    (pick xs idx).length = idx.length := by
  induction idx with
  | nil => rfl
  | cons i r ih =>
    rw [pick_cons_of_lt xs r (hb i (List.mem_cons_self ..)), List.length_cons, List.length_cons,
      ih (fun j hj => hb j (List.mem_cons_of_mem _ hj))]

theorem pick_getElem {α : Type} (xs : List α) (idx : List Nat) (hb : ∀ i, i ∈ idx → i < xs.length)
    (j : Nat) (hj : j < idx.length) : (pick xs idx)[j]? = xs[idx[j]]? := by
  induction idx generalizing j with
  | nil => simp at hj
  | cons i r ih =>
    have hi : i < xs.length := hb i (List.mem_cons_self ..)
    rw [pick_cons_of_lt xs r hi]
    cases j with
    | zero => simp [List.getElem?_eq_getElem hi]
    | succ j =>
      simp only [List.getElem?_cons_succ, List.getElem_cons_succ]
      exact ih (fun k hk => hb k (List.mem_cons_of_mem _ hk)) j (by simpa using hj)

theorem pick_slice_length_eq {α : Type} (xs : List α) (a b c : Option Int) (idx : List Nat)
    (h : sliceIndices xs.length a b c = .ok idx) : (pick xs idx).length = idx.length :=
  pick_length xs idx (sliceIndices_mem_lt _ _ _ _ _ h)

theorem pick_slice_length_le {α : Type} (xs : List α) (a b c : Option Int) (idx : List Nat)
    (h : sliceIndices xs.length a b c = .ok idx) : (pick xs idx).length ≤ xs.length :=
  pick_slice_length_eq xs a b c idx h ▸ sliceIndices_length_le _ _ _ _ _ h

/-- the shape `pyGetItem` has for a slice key on any sequence: the positions picked, then wrapped by `sub` -/
theorem seq_slice_le {α β : Type} (xs : List α) (sub : List α → β) (lo hi st : Option Int) (r : β)
    (hr : (match sliceIndices xs.length lo hi st with
      | .ok idx => (Except.ok (sub (pick xs idx)) : R β)
      | .error e => .error e) = .ok r) :
    ∃ ys, r = sub ys ∧ ys.length ≤ xs.length := by
  cases hsl : sliceIndices xs.length lo hi st with
  | error e => rw [hsl] at hr; cases hr
  | ok idx =>
    rw [hsl] at hr
    cases hr
    exact ⟨_, rfl, pick_slice_length_le xs lo hi st idx hsl⟩

theorem slice_getElem {α : Type} (xs : List α) (a b c : Option Int) (idx : List Nat)
    (h : sliceIndices xs.length a b c = .ok idx) (j : Nat) (hj : j < idx.length) :
    (pick xs idx)[j]? = xs[idx[j]]? :=
  pick_getElem xs idx (sliceIndices_mem_lt _ _ _ _ _ h) j hj

/-- where a slice bound lands on a list of `n` elements: counted from the end when negative, clamped to `0 .. n` -/
def sliceBound (n : Nat) (x : Option Int) (dflt : Nat) : Nat :=
  match x with
  | none => dflt
  | some i => if i < 0 then (i + n).toNat else min i.toNat n

theorem sliceBound_le (n : Nat) (x : Option Int) (d : Nat) (hd : d ≤ n) : sliceBound n x d ≤ n := by
  unfold sliceBound
  cases x with
  | none => exact hd
  | some i => simp only; split <;> omega

theorem sliceNorm_pos (n : Nat) {step : Int} (hs : 0 < step) (x : Int) :
    sliceNorm n step x = ((if x < 0 then (x + n).toNat else min x.toNat n : Nat) : Int) := by
  unfold sliceNorm
  rw [sliceLower_pos hs, sliceUpper_pos n hs]
  split
  · rw [Int.toNat_eq_max]
  · rename_i h
    obtain ⟨m, rfl⟩ := Int.eq_ofNat_of_zero_le (Int.not_lt.mp h)
    rw [Int.toNat_natCast]
    omega

theorem sliceStart_one (n : Nat) (a : Option Int) : sliceStart n 1 a = (sliceBound n a 0 : Nat) := by
  cases a with
  | none => rfl
  | some x => exact sliceNorm_pos _ (by decide) x

theorem sliceStop_one (n : Nat) (b : Option Int) : sliceStop n 1 b = (sliceBound n b n : Nat) := by
  cases b with
  | none => rfl
  | some x => exact sliceNorm_pos _ (by decide) x

theorem pick_consecutive {α : Type} (xs : List α) (s c : Nat) :
    pick xs ((List.range c).map (fun k => s + k)) = (xs.drop s).take c := by
  induction c with
  | zero => simp [pick]
  | succ c ih =>
    rw [List.range_succ, List.map_append, List.take_add_one]
    unfold pick at ih ⊢
    rw [List.filterMap_append, ih]
    congr 1
    rw [List.getElem?_drop]
    simp only [List.map_cons, List.map_nil, List.filterMap_cons, List.filterMap_nil]
    cases xs[s + c]? <;> rfl

theorem sliceRange_one (s e : Nat) : sliceRange s e 1 = (List.range (e - s)).map (fun k => s + k) := by
  unfold sliceRange
  rw [if_pos (by decide), Int.ediv_one]
  have hc : (if (s : Int) < e then ((e : Int) - s - 1 + 1).toNat else 0) = e - s := by
    split
    · rw [Int.sub_add_cancel, ← Int.natCast_sub (by omega), Int.toNat_natCast]
    · omega
  rw [hc]
  exact List.map_congr_left (fun k _ => by rw [Int.one_mul, ← Int.natCast_add, Int.toNat_natCast])

theorem slice_is_segment {α : Type} (xs : List α) (a b : Option Int) :
    ∃ idx, sliceIndices xs.length a b none = .ok idx ∧
      pick xs idx = (xs.drop (sliceBound xs.length a 0)).take (sliceBound xs.length b xs.length - sliceBound xs.length a 0) := by
  refine ⟨_, sliceIndices_of_step (step := 1) rfl (by decide), ?_⟩
  rw [sliceStart_one, sliceStop_one, sliceRange_one, pick_consecutive]

/-- the left side is what `simp only [sliceRange, …]` leaves of the count in `slice_step_indices`, hence `- 0`; likewise
    `- -↑k` and `> -1` in `neg_step_count` -/
theorem step_count (n k : Nat) (hk : 0 < k) :
    (if (0 : Int) < (n : Int) then (((n : Int) - 0 - 1) / (k : Int) + 1).toNat else 0) = (n + k - 1) / k := by
  cases n with
  | zero => exact (Nat.div_eq_of_lt (by omega)).symm
  | succ m =>
    -- `m / k + 1` on both sides: as an integer quotient on the left, as `(m + k) / k` on the right
    rw [if_pos (Int.natCast_pos.mpr (Nat.succ_pos m)), Int.sub_zero, Int.natCast_succ, Int.add_sub_cancel,
      ← Int.natCast_ediv, ← Int.natCast_succ, Int.toNat_natCast, Nat.add_right_comm, Nat.add_sub_cancel,
      Nat.add_div_right m hk]

theorem slice_step_indices (n k : Nat) (hk : 0 < k) :
    sliceIndices n none none (some (k : Int)) = .ok ((List.range ((n + k - 1) / k)).map (fun j => j * k)) ∧
    ∀ i, i ∈ (List.range ((n + k - 1) / k)).map (fun j => j * k) → i < n := by
  have h : sliceIndices n none none (some (k : Int)) = .ok ((List.range ((n + k - 1) / k)).map (fun j => j * k)) := by
    rw [sliceIndices_of_step (step := (k : Int)) rfl (by omega)]
    simp only [sliceRange, sliceStart, sliceStop, sliceLower, sliceUpper, if_neg (by omega : ¬ (k : Int) < 0),
      if_pos (by omega : (k : Int) > 0), step_count n k hk]
    refine congrArg _ (List.map_congr_left (fun j _ => ?_))
    rw [Int.zero_add, Int.mul_comm, ← Int.natCast_mul, Int.toNat_natCast]
  exact ⟨h, sliceIndices_mem_lt _ _ _ _ _ h⟩

theorem slice_step_elems {α : Type} (xs : List α) (k : Nat) (hk : 0 < k) :
    (pick xs ((List.range ((xs.length + k - 1) / k)).map (fun j => j * k))).length = (xs.length + k - 1) / k ∧
    ∀ j, j < (xs.length + k - 1) / k →
      (pick xs ((List.range ((xs.length + k - 1) / k)).map (fun j => j * k)))[j]? = xs[j * k]? := by
  have hb := (slice_step_indices xs.length k hk).2
  refine ⟨by rw [pick_length xs _ hb, List.length_map, List.length_range], fun j hj => ?_⟩
  rw [pick_getElem xs _ hb j (by simpa using hj), List.getElem_map, List.getElem_range]

theorem neg_step_count (n k : Nat) (hk : 0 < k) :
    (if (n : Int) - 1 > -1 then (((n : Int) - 1 - -1 - 1) / - -(k : Int) + 1).toNat else 0) = (n + k - 1) / k := by
  rw [← step_count n k hk, Int.neg_neg, show (n : Int) - 1 - -1 - 1 = (n : Int) - 0 - 1 by omega]
  exact ite_congr (propext (by omega)) (fun _ => rfl) (fun _ => rfl)

/-- the second part says `j * k < n`, so that the truncated `n - 1 - j * k` is the true difference -/
theorem slice_neg_step_indices (n k : Nat) (hk : 0 < k) :
    sliceIndices n none none (some (-(k : Int))) = .ok ((List.range ((n + k - 1) / k)).map (fun j => n - 1 - j * k)) ∧
    (∀ j, j < (n + k - 1) / k → j * k < n) := by
  constructor
  · rw [sliceIndices_of_step (step := -(k : Int)) rfl (by omega)]
    simp only [sliceRange, sliceStart, sliceStop, sliceLower, sliceUpper, if_pos (by omega : -(k : Int) < 0),
      if_neg (by omega : ¬ -(k : Int) > 0), neg_step_count n k hk]
    refine congrArg _ (List.map_congr_left (fun j _ => ?_))
    rw [Int.neg_mul, Int.mul_comm, ← Int.natCast_mul]
    omega
  · exact fun j hj => (slice_step_indices n k hk).2 _ (List.mem_map.mpr ⟨j, List.mem_range.mpr hj, rfl⟩)

theorem slice_neg_step_elems {α : Type} (xs : List α) (k : Nat) (hk : 0 < k) :
    (pick xs ((List.range ((xs.length + k - 1) / k)).map (fun j => xs.length - 1 - j * k))).length = (xs.length + k - 1) / k ∧
    ∀ j, j < (xs.length + k - 1) / k →
      (pick xs ((List.range ((xs.length + k - 1) / k)).map (fun j => xs.length - 1 - j * k)))[j]? = xs[xs.length - 1 - j * k]? := by
  have hb := sliceIndices_mem_lt _ _ _ _ _ (slice_neg_step_indices xs.length k hk).1
  refine ⟨by rw [pick_length xs _ hb, List.length_map, List.length_range], fun j hj => ?_⟩
  rw [pick_getElem xs _ hb j (by simpa using hj), List.getElem_map, List.getElem_range]

theorem pick_reversed {α : Type} (xs : List α) :
    pick xs ((List.range xs.length).map (fun k => xs.length - 1 - k)) = xs.reverse := by
  have hb : ∀ i, i ∈ (List.range xs.length).map (fun k => xs.length - 1 - k) → i < xs.length := by
    intro i hi
    obtain ⟨k, hk, rfl⟩ := List.mem_map.mp hi
    have := List.mem_range.mp hk
    omega
  refine List.ext_getElem (by rw [pick_length xs _ hb, List.length_map, List.length_range, List.length_reverse]) ?_
  intro j h1 h2
  have hj : j < xs.length := by simpa using h2
  apply Option.some.inj
  rw [← List.getElem?_eq_getElem h1, ← List.getElem?_eq_getElem h2, pick_getElem xs _ hb j (by simpa using hj),
    List.getElem_map, List.getElem_range, List.getElem?_reverse hj]

theorem slice_reverse {α : Type} (xs : List α) :
    ∃ idx, sliceIndices xs.length none none (some (-1)) = .ok idx ∧ pick xs idx = xs.reverse := by
  refine ⟨_, (slice_neg_step_indices xs.length 1 (by decide)).1, ?_⟩
  simp only [Nat.add_sub_cancel, Nat.div_one, Nat.mul_one]
  exact pick_reversed xs

end Sq
