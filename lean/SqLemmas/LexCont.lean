/-
  The scanning functions of the lexer decide by what they consume plus at most two characters of
  look-ahead: a text that begins with a separator, inserted into the continuation of their input, does not change the step.
-/
import SqLemmas.LexLemmas
namespace Sq

/-- `z` is `r` with its suffix `post` replaced by `b :: tail` -/
inductive Cont (b : Char) (tail post : List Char) : List Char → List Char → Prop
  | here : Cont b tail post post (b :: tail)
  | cons (c : Char) {r z : List Char} : Cont b tail post r z → Cont b tail post (c :: r) (c :: z)

theorem Cont.prepend {b : Char} {tail post r z : List Char} (u : List Char) (h : Cont b tail post r z) :
    Cont b tail post (u ++ r) (u ++ z) := by
  induction u with
  | nil => exact h
  | cons c u ih => exact .cons c ih

theorem Cont.append {b : Char} {tail post : List Char} (u : List Char) : Cont b tail post (u ++ post) (u ++ b :: tail) :=
  Cont.prepend u .here

theorem Cont.exists {b : Char} {tail post r z : List Char} (h : Cont b tail post r z) : ∃ u, r = u ++ post ∧ z = u ++ b :: tail := by
  induction h with
  | here => exact ⟨[], rfl, rfl⟩
  | cons c _ ih => obtain ⟨u, e1, e2⟩ := ih; exact ⟨c :: u, by simp [e1], by simp [e2]⟩

theorem Cont.cases_head {b : Char} {tail post r z : List Char} (h : Cont b tail post r z) :
    (∃ t, z = b :: t) ∨ z.head? = r.head? := by
  cases h with
  | here => exact Or.inl ⟨_, rfl⟩
  | cons c _ => exact Or.inr rfl

theorem Cont.head {b : Char} {post r z : List Char} (h : Cont b tail post r z) : z.head? = r.head? ∨ z.head? = some b := by
  rcases h.cases_head with ⟨t, rfl⟩ | e
  · exact Or.inr rfl
  · exact Or.inl e

theorem Cont.ne_nil {b : Char} {post r z : List Char} (h : Cont b tail post r z) : z ≠ [] := by
  cases h <;> simp

/-- a character after which no token continues and which extends no operator -/
def isSepC (b : Char) : Prop := b = ' ' ∨ b = '\t' ∨ b = '#' ∨ b = '\n' ∨ b = '\r'

theorem isSepC_of_blank {b : Char} (h : isBlank b) : isSepC b := by
  rcases h with rfl | rfl
  · exact Or.inl rfl
  · exact Or.inr (Or.inl rfl)

theorem sep_other (b : Char) (hb : isSepC b) : classify b = .other := by
  rcases hb with rfl | rfl | rfl | rfl | rfl <;> decide

theorem sep_ne (b : Char) (hb : isSepC b) : b ≠ '=' ∧ b ≠ '*' ∧ b ≠ '.' ∧ isQuote b = false := by
  rcases hb with rfl | rfl | rfl | rfl | rfl <;> decide

theorem mk_rest {ty : Tk} {v : List Char} {st : LexSt} {n : Nat} {dd : Int} {rest : List Char} {t : Token} {st' : LexSt}
    {r : List Char} (h : mk ty v st n dd rest = .tok t st' r) : r = rest ∧ ∀ z, mk ty v st n dd z = .tok t st' z := by
  simp only [mk, LexRes.tok.injEq] at h
  obtain ⟨rfl, rfl, rfl⟩ := h
  exact ⟨rfl, fun _ => rfl⟩

theorem mkNL_rest {v : List Char} {st : LexSt} {n : Nat} {rest : List Char} {t : Token} {st' : LexSt}
    {r : List Char} (h : mkNL v st n rest = .tok t st' r) : r = rest ∧ ∀ z, mkNL v st n z = .tok t st' z := by
  simp only [mkNL, LexRes.tok.injEq] at h
  obtain ⟨rfl, rfl, rfl⟩ := h
  exact ⟨rfl, fun _ => rfl⟩

theorem SpanStops.cont {p : CC → Bool} (hp : p .other = false) {b : Char} (hb : isSepC b) {tail post r z : List Char}
    (hs : SpanStops p r) (hc : Cont b tail post r z) : SpanStops p z := by
  cases hc with
  | here => exact .inr ⟨b, tail, rfl, by rw [sep_other b hb]; decide, by rw [sep_other b hb, hp]⟩
  | cons c _ =>
    rcases hs with h | ⟨c', t, e, hu, hpc⟩
    · cases h
    · injection e with e1 _
      exact .inr ⟨c, _, rfl, e1 ▸ hu, e1 ▸ hpc⟩

theorem startsWith_le2 (c : Char) (t1 t2 : List Char) (h : t1.head? = t2.head?) (pat : List Char) (hp : pat.length ≤ 2) :
    Str.startsWith (c :: t1) pat = Str.startsWith (c :: t2) pat := by
  match pat, hp with
  | [], _ => simp [Str.startsWith]
  | [x], _ => simp [Str.startsWith]
  | [x, y], _ =>
    cases t1 <;> cases t2 <;> simp_all [Str.startsWith]

theorem simpleOps_short : ∀ p ∈ simpleOps, p.1.length ≤ 2 := by decide

theorem find?_congr {α : Type} (p q : α → Bool) : ∀ (l : List α), (∀ x ∈ l, p x = q x) → l.find? p = l.find? q := by
  intro l
  induction l with
  | nil => intro _; rfl
  | cons a l ih =>
    intro h
    simp only [List.find?]
    rw [h a (by simp), ih (fun x hx => h x (by simp [hx]))]

theorem matchSimple_head (c : Char) (t1 t2 : List Char) (h : t1.head? = t2.head?) :
    matchSimple (c :: t1) = matchSimple (c :: t2) := by
  unfold matchSimple
  apply find?_congr
  intro p hp
  exact startsWith_le2 c t1 t2 h p.1 (simpleOps_short p hp)

/-- the shape of the operator literals that lets a hit of one character survive a `b` put behind it: the entries tried
    before the hit see `c` alone, or need a second character that is not `b` -/
def okShape (b : Char) (p : List Char × Tk) : Bool :=
  match p.1 with
  | [_] => true
  | [_, y] => y != b
  | _ => false

theorem simpleOps_shape (b : Char) (hb : isSepC b) : ∀ p ∈ simpleOps, okShape b p = true := by
  rcases hb with rfl | rfl | rfl | rfl | rfl <;> decide

/-- a predicate that holds in fewer places and still holds at the hit finds the same hit -/
theorem find?_of_imp {α : Type} (p q : α → Bool) (a : α) : ∀ (l : List α), (∀ x ∈ l, q x = true → p x = true) →
    l.find? p = some a → q a = true → l.find? q = some a := by
  intro l
  induction l with
  | nil => intro _ h; cases h
  | cons x l ih =>
    intro himp h hq
    simp only [List.find?] at h ⊢
    cases hp : p x with
    | true => rw [hp] at h; injection h with h; rw [h, hq]
    | false =>
      rw [hp] at h
      have : q x = false := by
        cases hqx : q x with
        | false => rfl
        | true => rw [himp x (by simp) hqx] at hp; cases hp
      rw [this]
      exact ih (fun y hy => himp y (by simp [hy])) h hq

/-- a hit of one character survives a `b` put behind it: the entries that match `c :: b :: t` matched before, since no
    literal has `b` for its second character -/
theorem matchSimple_sep (c b : Char) (hb : isSepC b) (r t : List Char) (lit : List Char) (ty : Tk)
    (h : matchSimple (c :: r) = some (lit, ty)) (hl : lit.length = 1) : matchSimple (c :: b :: t) = some (lit, ty) := by
  refine find?_of_imp _ _ (lit, ty) simpleOps (fun pat hpat hq => ?_) h ?_
  · have hsh := simpleOps_shape b hb pat hpat
    obtain ⟨pl, pt⟩ := pat
    match pl, hsh, hq with
    | [x], _, hq => simpa [Str.startsWith] using hq
    | [x, y], hsh, hq => simp_all [okShape, Str.startsWith]
  · have hp := List.find?_some h
    match lit, hl, hp with
    | [x], _, hp => simpa [Str.startsWith] using hp

/-- a hit of the operator table is its first character, alone or with the character that follows -/
theorem matchSimple_hit {c : Char} {cs lit : List Char} {ty : Tk} (h : matchSimple (c :: cs) = some (lit, ty)) :
    lit = [c] ∨ ∃ y ds, lit = [c, y] ∧ cs = y :: ds := by
  obtain ⟨hmem, e⟩ := matchSimple_spec h
  match lit, (simpleOps_lits _ hmem).2, simpleOps_short _ hmem, e with
  | [x], _, _, e => injection e with e _; exact .inl (by rw [e])
  | [x, y], _, _, e =>
    injection e with e1 e2
    cases cs with
    | nil => cases e2
    | cons d ds => injection e2 with e2 _; exact .inr ⟨d, ds, by rw [e1, e2], rfl⟩
  | [], hne, _, _ => exact absurd rfl hne
  | _ :: _ :: _ :: _, _, hlen, _ => simp at hlen

theorem lexPunct_cont (st : LexSt) (c : Char) (cs : List Char) (hc : c ≠ '#') (b : Char) (hb : isSepC b)
    (tail post : List Char)
    {t : Token} {st' : LexSt} {r : List Char} (h : lexPunct st c cs = .tok t st' r) :
    ∃ u, cs = u ++ r ∧ ∀ z, Cont b tail post r z → lexPunct st c (u ++ z) = .tok t st' z := by
  obtain ⟨hbe, hbs, _, _⟩ := sep_ne b hb
  rcases lexPunct_cases c cs with rfl | rfl | ⟨hop, t0, rfl⟩ | ⟨rfl, t0, rfl⟩ | rfl | ⟨h1, h2, hso, hpw, hd⟩
  · rw [lexPunct_pct] at h
    split at h
    · rename_i bd rest hp
      obtain ⟨rfl, hm⟩ := mk_rest h
      obtain ⟨e, _, hany⟩ := pctBody_spec cs bd r hp
      refine ⟨bd ++ ['%'], by simp [e], fun z _ => ?_⟩
      have := hany z
      rw [lexPunct_pct]
      simp only [List.append_assoc, List.cons_append, List.nil_append, this]
      exact hm z
    · cases h
  · exact absurd rfl hc
  · rw [lexPunct_short st c hop] at h
    obtain ⟨rfl, hm⟩ := mk_rest h
    exact ⟨['='], rfl, fun z _ => by rw [List.singleton_append, lexPunct_short st c hop]; exact hm z⟩
  · rw [lexPunct_power] at h
    obtain ⟨rfl, hm⟩ := mk_rest h
    exact ⟨['*'], rfl, fun z _ => by rw [List.singleton_append, lexPunct_power]; exact hm z⟩
  · rw [lexPunct_dot] at h
    obtain ⟨rfl, hm⟩ := mk_rest h
    exact ⟨[], rfl, fun z _ => by rw [List.nil_append, lexPunct_dot]; exact hm z⟩
  · rw [lexPunct_simple st c cs h1 h2 hso hpw hd] at h
    split at h
    · rename_i lit ty hm
      obtain ⟨rfl, hmk⟩ := mk_rest h
      rcases matchSimple_hit hm with rfl | ⟨y, ds, rfl, rfl⟩
      · refine ⟨[], rfl, fun z hz => ?_⟩
        rw [List.nil_append]
        rcases hz.cases_head with ⟨t, rfl⟩ | hh
        · -- `b` is neither `=` nor `*`: the two-character rules stay closed
          rw [lexPunct_simple st c (b :: t) h1 h2 (fun h => hbe (Option.some.inj h.2)) (fun h => hbs (Option.some.inj h.2)) hd,
            matchSimple_sep c b hb cs t _ _ hm rfl]
          exact hmk _
        · simp only [List.drop_succ_cons, List.drop_zero, List.length_singleton] at hh
          rw [lexPunct_simple st c z h1 h2 (hh ▸ hso) (hh ▸ hpw) hd, matchSimple_head c z cs hh, hm]
          exact hmk _
      · refine ⟨[y], rfl, fun z _ => ?_⟩
        rw [List.singleton_append, lexPunct_simple st c (y :: z) h1 h2 hso hpw hd,
          matchSimple_head c (y :: z) (y :: ds) rfl, hm]
        exact hmk _
    · cases h

theorem NoFrac.cont {b : Char} (hb : isSepC b) {tail post r z : List Char} (hf : NoFrac r) (hc : Cont b tail post r z) :
    NoFrac z := by
  intro d r2 ez
  cases hc with
  | here => injection ez with e1 _; exact absurd e1 (sep_ne b hb).2.2.1
  | cons c0 hz' =>
    injection ez with e1 e2
    subst e1
    cases hz' with
    | here => injection e2 with e3 _; subst e3; rw [sep_other b hb]; exact ⟨by decide, by decide⟩
    | cons d0 _ => injection e2 with e3 _; subst e3; exact hf d0 _ rfl

theorem lexNumber_cont (st : LexSt) (c : Char) (cs : List Char) (hd : classify c = .digit) (b : Char) (hb : isSepC b)
    (tail post : List Char) {t : Token} {st' : LexSt} {r : List Char} (h : lexNumber st c cs = .tok t st' r) :
    ∃ u, cs = u ++ r ∧ ∀ z, Cont b tail post r z → lexNumber st c (u ++ z) = .tok t st' z := by
  rcases lexNumber_cases st cs hd with ⟨e, he⟩ | ⟨ip, r0, rfl, ht, hs, hf⟩ | ⟨ip, d, fp, r0, rfl, ht, hd', ht2, hs⟩
  · rw [he] at h; cases h
  · rw [lexNumber_int st ht hs hf] at h
    obtain ⟨rfl, hm⟩ := mk_rest h
    exact ⟨ip, rfl, fun z hz => by rw [lexNumber_int st ht (hs.cont rfl hb hz) (hf.cont hb hz)]; exact hm z⟩
  · rw [lexNumber_frac st ht hd' ht2 hs] at h
    obtain ⟨rfl, hm⟩ := mk_rest h
    refine ⟨ip ++ '.' :: d :: fp, by simp, fun z hz => ?_⟩
    rw [List.append_assoc, List.cons_append, List.cons_append, lexNumber_frac st ht hd' ht2 (hs.cont rfl hb hz)]
    exact hm z

theorem quote_step_err (st : LexSt) (q : Char) (t : List Char) (hq : isQuote q = true) (hs : strBody q t = none) :
    ∃ e, lexStep st (q :: t) = .err e := by
  refine ⟨.illegal q st.pos, ?_⟩
  rw [← lexPunct_quote st q t hq]
  rcases isQuote_cases hq with rfl | rfl <;> simp [lexStep_word, lexWord, matchString, isQuote, hs, classify]

theorem strBody_none_of_raw {q : Char} {cs : List Char} (hq : isQuote q = true) (h : matchString ('r' :: q :: cs) = none) :
    strBody q cs = none := by
  rw [matchString, if_pos hq] at h
  cases hs : strBody q cs with
  | none => rfl
  | some p => rw [hs] at h; cases h

/-- The side condition is for the NAME `r` before a quote whose string does not close: the raw-string attempt scans the whole
    rest, and inserted text could close it.  So the insertion stands right here (`b` is no quote), or the next step of the
    old text is no error (an unclosed quote would be one); `reach_next` discharges it. -/
theorem lexWord_cont (st : LexSt) (c : Char) (cs : List Char) (b : Char) (hb : isSepC b) (tail post : List Char)
    {t : Token} {st' : LexSt} {r : List Char} (h : lexWord st c cs = .tok t st' r) :
    ∃ u, cs = u ++ r ∧ ∀ z, Cont b tail post r z → ((∃ t, z = b :: t) ∨ ∀ e, lexStep st' r ≠ .err e) →
      lexWord st c (u ++ z) = .tok t st' z := by
  rcases lexWord_cases st c cs with ⟨e, he⟩ | ⟨v, n, rest, hm⟩ | hd | ⟨hl, hm, w, r0, rfl, ht, hs⟩ | ⟨ho, hq⟩
  · rw [he] at h; cases h
  · rw [lexWord_string st hm] at h
    obtain ⟨rfl, hmk⟩ := mk_rest h
    obtain ⟨c', u, e, _, _, hany⟩ := matchString_spec hm
    injection e with e1 e2
    subst e1
    exact ⟨u, e2, fun z _ _ => by rw [lexWord_string st (hany z)]; exact hmk z⟩
  · rw [lexWord_digit st cs hd] at h
    obtain ⟨u, e, hz⟩ := lexNumber_cont st c cs hd b hb tail post h
    exact ⟨u, e, fun z hc _ => by rw [lexWord_digit st _ hd]; exact hz z hc⟩
  · rw [lexWord_name st hl ht hs hm] at h
    obtain ⟨rfl, hmk⟩ := mk_rest h
    refine ⟨w, rfl, fun z hc hside => ?_⟩
    have hbnq : isQuote b = false := (sep_ne b hb).2.2.2
    have hm' : matchString (c :: (w ++ z)) = none := by
      refine matchString_word ht fun hr hw q hq => ?_
      subst hr hw
      cases hc with
      | here => injection hq with hq; rw [← hq]; exact hbnq
      | @cons q0 rest' z' _ =>
        injection hq with hq
        subst hq
        cases hqq : isQuote q0 with
        | false => rfl
        | true =>
          -- the old text has an unterminated raw string here: its next step is an error
          obtain ⟨e, he⟩ := quote_step_err st' q0 rest' hqq (strBody_none_of_raw hqq hm)
          rcases hside with ⟨_, hh⟩ | hh
          · injection hh with h1 _; rw [h1, hbnq] at hqq; cases hqq
          · exact absurd he (hh e)
    rw [lexWord_name st hl ht (hs.cont rfl hb hc) hm']
    exact hmk z
  · rw [lexWord_punct st cs ho hq] at h
    have hne : c ≠ '#' := by
      rintro rfl
      rw [lexPunct_hash] at h; cases h
    obtain ⟨u, e, hz⟩ := lexPunct_cont st c cs hne b hb tail post h
    exact ⟨u, e, fun z hc _ => by rw [lexWord_punct st _ ho hq]; exact hz z hc⟩

/-- what a step of the old text, with result `R` and rest `r`, becomes on `u ++ z`: the same token, the same skip, or, for
    `z = b :: r`, a skip that swallows the `b` as well: the conclusions of `lexStep_cont_tok` and `lexStep_cont_skip` for a
    single inserted character, as one relation -/
inductive StepCont (b : Char) (st : LexSt) (u : List Char) (R : LexRes) (r z : List Char) : Prop
  | same_tok (t : Token) (st' : LexSt) : R = .tok t st' r → lexStep st (u ++ z) = .tok t st' z → StepCont b st u R r z
  | same_skip (st' : LexSt) : R = .skip st' r → lexStep st (u ++ z) = .skip st' z → StepCont b st u R r z
  | swallowed (st' : LexSt) : R = .skip st' r → z = b :: r → lexStep st (u ++ z) = .skip (st'.shift 1) r → StepCont b st u R r z

theorem lexBracket_cont (st : LexSt) (c : Char) (cs : List Char) (b : Char) (hb : isSepC b) (tail post : List Char)
    {t : Token} {st' : LexSt} {r : List Char} (h : lexBracket st c cs = .tok t st' r) :
    ∃ u, cs = u ++ r ∧ ∀ z, Cont b tail post r z → ((∃ t, z = b :: t) ∨ ∀ e, lexStep st' r ≠ .err e) →
      lexBracket st c (u ++ z) = .tok t st' z := by
  rcases lexBracket_cases c with ⟨ty, dd, hc⟩ | hc
  · rw [hc] at h
    obtain ⟨rfl, hm⟩ := mk_rest h
    exact ⟨[], rfl, fun z _ _ => by rw [List.nil_append, hc]; exact hm z⟩
  · rw [hc] at h
    obtain ⟨u, e, hz⟩ := lexWord_cont st c cs b hb tail post h
    exact ⟨u, e, fun z hcz hs => by rw [hc]; exact hz z hcz hs⟩

theorem lexBracket_cr (st : LexSt) (cs : List Char) : lexBracket st '\r' cs = .err (.illegal '\r' st.pos) := by
  simp [lexBracket_word, lexWord, matchString, isQuote, classify, lexPunct, matchSimple, simpleOps, Str.startsWith]

/-- for the side condition see `lexWord_cont` -/
theorem lexStep_cont_tok (st : LexSt) (s : List Char) (b : Char) (hb : isSepC b) (tail post : List Char)
    {t : Token} {st' : LexSt} {r : List Char} (h : lexStep st s = .tok t st' r) :
    ∃ u, s = u ++ r ∧ ∀ z, Cont b tail post r z → ((∃ t, z = b :: t) ∨ ∀ e, lexStep st' r ≠ .err e) →
      lexStep st (u ++ z) = .tok t st' z := by
  cases s with
  | nil => cases h
  | cons c cs =>
    rcases lexStep_cases c cs with hb0 | rfl | ⟨rfl, t0, rfl⟩ | rfl | ⟨hb0, hr, hn, hs⟩
    · rw [lexStep_blank st c hb0] at h; cases h
    · rw [lexStep_lf] at h
      split at h
      · rename_i hd
        obtain ⟨rfl, hm⟩ := mkNL_rest h
        exact ⟨['\n'], rfl, fun z _ _ => by rw [List.singleton_append, lexStep_lf, if_pos hd]; exact hm z⟩
      · cases h
    · rw [lexStep_crlf] at h
      split at h
      · rename_i hd
        obtain ⟨rfl, hm⟩ := mkNL_rest h
        exact ⟨['\r', '\n'], rfl, fun z _ _ => by
          rw [List.cons_append, List.singleton_append, lexStep_crlf, if_pos hd]; exact hm z⟩
      · cases h
    · rw [lexStep_semi] at h
      obtain ⟨rfl, hm⟩ := mk_rest h
      exact ⟨[';'], rfl, fun z _ _ => by rw [List.singleton_append, lexStep_semi]; exact hm z⟩
    · rw [lexStep_plain st c cs hb0 hr hn hs] at h
      obtain ⟨u, e, hz⟩ := lexBracket_cont st c cs b hb tail post h
      refine ⟨c :: u, by rw [e]; rfl, fun z hc hs' => ?_⟩
      -- a '\r' that no '\n' followed was an error, not a token: `c` is not '\r', whatever follows it now
      have hcr : c ≠ '\r' := by
        rintro rfl
        rw [lexBracket_cr] at h
        cases h
      rw [List.cons_append, lexStep_plain st c (u ++ z) hb0 (fun hh => hcr hh.1) hn hs]
      exact hz z hc hs'

/-- no `isSepC b` is asked: a skip reads nothing behind what it passes, a comment apart.  Second case: the old step was a
    comment ending exactly at `post`; it now swallows the insertion up to its first line feed -/
theorem lexStep_cont_skip (st : LexSt) (s : List Char) (b : Char) (tail post : List Char)
    {st' : LexSt} {r : List Char} (h : lexStep st s = .skip st' r) :
    ∃ u, s = u ++ r ∧ ∀ z, Cont b tail post r z →
      lexStep st (u ++ z) = .skip st' z ∨
        (b ≠ '\n' ∧ r = post ∧ z = b :: tail ∧ (r = [] ∨ ∃ t, r = '\n' :: t) ∧
          lexStep st (u ++ z) = .skip (st'.shift (1 + (tail.length - (dropLine tail).length))) (dropLine tail)) := by
  have hok := lexStep_ok st s
  rw [h] at hok
  obtain ⟨pre, e, rfl, hk⟩ := hok
  refine ⟨pre, e, fun z hz => ?_⟩
  rcases hk with ⟨b0, hb0, rfl⟩ | ⟨hd, rfl | rfl⟩ | ⟨cm, rfl, hcm, hshape⟩
  · have h0 : nl [b0] = 0 := by rcases hb0 with rfl | rfl <;> rfl
    rw [h0]
    exact .inl (lexStep_blank st b0 hb0 z)
  · exact .inl (by rw [List.singleton_append, lexStep_lf, if_neg hd]; rfl)
  · exact .inl (by rw [List.cons_append, List.singleton_append, lexStep_crlf, if_neg hd]; rfl)
  · -- a comment: it ends at the line feed it ended at, unless the insertion stands right there and is no line feed
    have hst : (st.shift ('#' :: cm).length).lshift (nl ('#' :: cm)) = st.shift (1 + cm.length) := by
      rw [nl_cons_ne _ _ (by decide), hcm]
      simp only [LexSt.shift, LexSt.lshift, List.length_cons, Nat.add_zero, LexSt.mk.injEq, and_true]
      omega
    rw [hst, List.cons_append]
    cases hz with
    | here =>
      by_cases hbn : b = '\n'
      · exact .inl (lexStep_comment st cm (b :: tail) hcm (.inr ⟨tail, by rw [hbn]⟩))
      · refine .inr ⟨hbn, rfl, rfl, hshape, ?_⟩
        rw [lexStep_hash, dropLine_append cm _ hcm, dropLine, if_neg hbn]
        obtain ⟨pre2, e2, _⟩ := dropLine_spec tail
        have hl : tail.length = pre2.length + (dropLine tail).length := by rw [← List.length_append, ← e2]
        simp only [LexSt.shift, List.length_append, List.length_cons, LexRes.skip.injEq, LexSt.mk.injEq, and_true]
        omega
    | cons c0 hz' =>
      rename_i r0 z0
      have hc0 : c0 = '\n' := by
        rcases hshape with h0 | ⟨t, ht⟩
        · cases h0
        · injection ht
      exact .inl (lexStep_comment st cm (c0 :: z0) hcm (.inr ⟨z0, by rw [hc0]⟩))

end Sq
