/-
  What every transition function of the machine does to the continuation, the op counters, the log and the scopes, and that
  it does not halt, in one sweep over all of them (`Local`); then, for whole runs, the frame lemma (`run_app`), the live
  control (`run_live`), the growing log and the balanced scopes.
-/
import SqLemmas.MachineLemmas
namespace Sq

/-- A transition function seen as a function `f` of the continuation beneath it, from world `w`, having taken the
    frames `k0` off the top (`[]` for `enter` and the call paths, `[fr]` for `resume` / `unwind`).  Five separate facts,
    kept together because each needs the same walk through every case of every transition function.  In `balanced`,
    `k0` counts on the right-hand side only: that is why `resume` / `unwind` on a `popScopeK` frame balance. -/
structure Local (k0 : List Frame) (w : World) (f : List Frame → Core) : Prop where
  framed : ∀ k, f k = (f []).app k
  noCharge : opsOf (f []).w = opsOf w
  logGrows : ∃ new, (f []).w.log = new ++ w.log
  balanced : ∀ i, bal (f []).w (f []).k i = bal w k0 i
  live : Den.Live (f [])

namespace Local
variable {k0 : List Frame} {w : World} {f : List Frame → Core}

/-- `vms` and `log` as in `w`, `f` hands the continuation on, its pushed frames have the `popCount` of `k0`, the control
    has not halted: each by computation unless given -/
theorem same (framed : ∀ k, f k = (f []).app k := by intro; rfl) (vms : (f []).w.vms = w.vms := by rfl)
    (log : (f []).w.log = w.log := by rfl) (pop : ∀ i, popCount i (f []).k = popCount i k0 := by intro; rfl)
    (live : Den.Live (f []) := by trivial) : Local k0 w f :=
  ⟨framed, by unfold opsOf; rw [vms], ⟨[], log⟩, fun i => by unfold bal; rw [vms, pop], live⟩

theorem under (h : Local [] w f) (fr : Frame) (hfr : ∀ i, popCount i [fr] = 0 := by intro; rfl) :
    Local [] w (fun k => f (fr :: k)) where
  framed k := by
    rw [h.framed (fr :: k), h.framed [fr]]
    simp [Core.app]
  noCharge := by rw [h.framed]; exact h.noCharge
  logGrows := by rw [h.framed]; exact h.logGrows
  balanced i := by
    rw [h.framed, ← h.balanced i]
    simp only [Core.app, bal, popCount_append, hfr, Nat.add_zero]
  live := h.framed [fr] ▸ h.live

theorem off {fr : Frame} (h : Local [] w f) (hfr : ∀ i, popCount i [fr] = 0 := by intro; rfl) : Local [fr] w f :=
  ⟨h.framed, h.noCharge, h.logGrows, fun i => by rw [h.balanced]; simp only [bal, hfr, popCount], h.live⟩

theorem ite {c : Prop} [Decidable c] {g : List Frame → Core} (hf : Local k0 w f) (hg : Local k0 w g) :
    Local k0 w (fun k => if c then f k else g k) := by
  split <;> assumption

theorem app_append (h : Local k0 w f) (k k1 : List Frame) : f (k ++ k1) = (f k).app k1 := by
  rw [h.framed (k ++ k1), h.framed k]
  simp [Core.app]

theorem ops_at (h : Local k0 w f) (k : List Frame) : opsOf (f k).w = opsOf w := by rw [h.framed]; exact h.noCharge

theorem log_at (h : Local k0 w f) (k : List Frame) : ∃ new, (f k).w.log = new ++ w.log := by rw [h.framed]; exact h.logGrows

theorem bal_at (h : Local k0 w f) (k : List Frame) (i : Nat) : bal (f k).w (f k).k i = bal w (k0 ++ k) i := by
  rw [h.framed, bal_append, ← h.balanced i]
  exact bal_append _ _ _ _

theorem live_at (h : Local k0 w f) (k : List Frame) : Den.Live (f k) := h.framed k ▸ h.live

end Local

/-! In the proofs below `split` sees through `fun k =>`: no `match` or `if` of a transition function inspects `k`. -/

theorem ofBR_local : ∀ (r : BR) (w : World), Local [] w (fun k => ofBR r k w)
  | .ok (v, s), w => .same (framed := fun k => ofBR_ok v s k w)
  | .error e, w => .same (framed := fun k => ofBR_error e k w)

theorem sortFinish_local (keys items : List Val) (rev dm : Bool) (w : World) :
    Local [] w (fun k => sortFinish keys items rev dm k w) := by
  unfold sortFinish
  split
  · exact .same
  · split <;> exact .same

theorem callClosure_local (ps : List Op) (body : Op) (vmi : Nat) (args : List Val) (w : World) :
    Local [] w (fun k => callClosure ps body vmi args k w) := by
  unfold callClosure
  split
  · exact .same
  · split
    · exact .same
    · rename_i vm hv
      exact ⟨fun _ => rfl, opsOf_setVM_scopes { w with heap := _ } vmi vm _ hv, ⟨[], rfl⟩,
        bal_push { w with heap := _ } [] vmi vm _ hv, trivial⟩

def IterLocal (it : IterFn) : Prop := ∀ kind g src acc w, Local [] w (fun k => it kind g src acc k w)

theorem callMap_local (it : IterFn) (hit : IterLocal it) (args : List Val) (w : World) :
    Local [] w (fun k => callMap it args k w) := by
  unfold callMap
  split
  · split
    · exact hit _ _ _ _ _
    · split
      · exact hit _ _ _ _ _
      · exact hit _ _ _ _ _
      · exact .same
    · exact .same
    · exact .same
  · exact .same

theorem callFilter_local (it : IterFn) (hit : IterLocal it) (args : List Val) (w : World) :
    Local [] w (fun k => callFilter it args k w) := by
  unfold callFilter
  split
  · split
    · split <;> exact .same
    · exact .same
    · exact .same
  · split
    · split
      · exact hit _ _ _ _ _
      · exact .same
    · exact .same
    · exact .same
  · exact .same

theorem callReduce_local (it : IterFn) (hit : IterLocal it) (args : List Val) (w : World) :
    Local [] w (fun k => callReduce it args k w) := by
  unfold callReduce
  split
  · split
    · exact .same
    · split
      · exact .same
      · exact .same
      · exact .same
      · exact hit _ _ _ _ _
  · exact .same

theorem callSorted_local (it : IterFn) (hit : IterLocal it) (args : List Val) (w : World) :
    Local [] w (fun k => callSorted it args k w) := by
  unfold callSorted
  split
  · split
    · exact .same
    · simp only []
      split
      · exact .same
      · exact .same
      · split
        · exact sortFinish_local _ _ _ _ _
        · exact .same
        · split
          · exact hit _ _ _ _ _
          · split
            · exact sortFinish_local _ _ _ _ _
            · exact .same
  · exact .same

theorem callProbe_local (args : List Val) (w : World) : Local [] w (fun k => callProbe args k w) := by
  unfold callProbe
  split
  · simp only []
    split <;> exact ⟨fun _ => rfl, rfl, ⟨[_], rfl⟩, fun _ => rfl, trivial⟩
  · exact .same

theorem call_local : ∀ (fuel : Nat),
    (∀ f args w, Local [] w (fun k => callVal fuel f args k w)) ∧ IterLocal (iterNext fuel) := by
  intro fuel
  induction fuel with
  | zero => exact ⟨fun _ _ _ => .same, fun _ _ _ _ _ => .same⟩
  | succ fuel ih =>
    obtain ⟨ihc, ihi⟩ := ih
    constructor
    · intro f args w
      unfold callVal
      split
      · exact callClosure_local _ _ _ _ _
      -- `split` on these `if` chains would try to decide every later condition at every level
      · exact .ite (callMap_local _ ihi _ _) (.ite .same (.ite (callFilter_local _ ihi _ _)
          (.ite (callReduce_local _ ihi _ _) (.ite (callSorted_local _ ihi _ _) (ofBR_local _ _)))))
      · refine .ite (callProbe_local _ _) (.ite ?_ (.ite ?_ .same))
        · split
          · exact ihc _ _ _
          · exact .same
        · split
          · exact (ihc _ _ _).under .tryK
          · exact .same
      · exact .same
      · exact .same
    · intro kind g src acc w
      unfold iterNext
      split
      · exact (ihc _ _ _).under (.iterK ..)
      · split
        · exact .same
        · exact .same
        · exact .same
        · exact sortFinish_local _ _ _ _ _

theorem doCall_local (n : Name) (args : List Val) (vmi : Nat) (w : World) :
    Local [] w (fun k => doCall n args vmi k w) := by
  unfold doCall
  split
  · exact .same
  · split
    · exact .same
    · exact (call_local callFuel).1 _ _ _

theorem enter_local (op : Op) (vmi : Nat) (w : World) : Local [] w (fun k => enter op vmi k w) := by
  cases op with
  | name n =>
    simp only [enter]
    split
    · exact .same
    · split <;> exact .same
  | call n args =>
    cases args with
    | nil => exact doCall_local n [] vmi w
    | cons a rest => exact .same
  | value v => cases v <;> exact .same
  | code ls => cases ls <;> exact .same
  | dict ps => cases ps <;> exact .same
  | _ => exact .same

theorem resume_local (fr : Frame) (v : Val) (w : World) : Local [fr] w (fun k => resume fr v k w) := by
  cases fr with
  | codeK rest vm => cases rest <;> exact .same
  | binL bk b vm =>
    unfold resume
    simp only []
    split
    · exact .ite .same .same
    · exact .ite .same .same
    · exact .same
  | binR bk va =>
    unfold resume
    simp only []
    split
    · rename_i r w' happ
      rcases applyBin_world happ with rfl | ⟨_, hp, -, rfl⟩ <;> exact .same
    · exact .same
  | unK uk =>
    unfold resume
    simp only []
    split <;> exact .same
  | assignK n vm =>
    unfold resume
    simp only []
    split
    · exact .same
    · split
      · exact .same
      · split <;> exact .same
  | shortK n sk vm =>
    unfold resume
    simp only []
    split
    · exact .same
    · split
      · exact .same
      · split
        · exact .same
        · split
          · exact .same
          · split <;> exact .same
  | ifK a b vm =>
    unfold resume
    simp only []
    split <;> exact .same
  | sliceK done todo vm =>
    unfold resume
    simp only []
    split
    · exact .same
    · split
      · exact .same
      · split <;> exact .same
  | argsK n done todo vm =>
    unfold resume
    simp only []
    split
    · exact .same
    · exact (doCall_local _ _ _ _).off
  | dictK done todo vm =>
    unfold resume
    simp only []
    split
    · exact .same
    · split <;> exact .same
  | popScopeK vm =>
    unfold resume
    simp only []
    split
    · rename_i hv
      exact ⟨fun _ => rfl, rfl, ⟨[], rfl⟩, bal_pop_none w [] vm hv, trivial⟩
    · rename_i vmv hv
      exact ⟨fun _ => rfl, opsOf_setVM_scopes w vm vmv _ hv, ⟨[], rfl⟩, bal_pop w [] vm vmv hv, trivial⟩
  | iterK kind g src cur acc =>
    unfold resume
    simp only []
    exact ((call_local callFuel).2 _ _ _ _ _).off
  | tryK => exact .same
  | astK n rest main vm =>
    unfold resume
    simp only []
    split
    · exact .same
    · split
      · exact .same
      · split <;> exact .same

theorem unwind_local (fr : Frame) (e : PyErr) (w : World) : Local [fr] w (fun k => unwind fr e k w) := by
  cases fr with
  | popScopeK vm =>
    unfold unwind
    simp only []
    split
    · rename_i hv
      exact ⟨fun _ => rfl, rfl, ⟨[], rfl⟩, bal_pop_none w [] vm hv, trivial⟩
    · rename_i vmv hv
      exact ⟨fun _ => rfl, opsOf_setVM_scopes w vm vmv _ hv, ⟨[], rfl⟩, bal_pop w [] vm vmv hv, trivial⟩
  | tryK =>
    unfold unwind
    simp only []
    split
    · exact .same
    · exact ⟨fun _ => rfl, rfl, ⟨[_], rfl⟩, fun _ => rfl, trivial⟩
  | _ => exact .same

/-- `w1`: the world after the charge -/
theorem stepCore_ev_local (B : List Nat) (op : Op) (vmi : Nat) (w : World) :
    ∃ w1, w1.log = w.log ∧ (∀ k i, bal w1 k i = bal w k i) ∧
      Local [] w1 (fun k => stepCore B { ctl := .ev op vmi, k := k, w := w }) := by
  simp only [stepCore_ev]
  split
  · exact ⟨w, rfl, fun _ _ => rfl, .same⟩
  · next hc =>
    obtain ⟨vm, hv, rfl⟩ := of_charge_eq_some hc
    exact ⟨w.setVM vmi { vm with ops := vm.ops + 1 }, rfl, fun k i => bal_ops w k vmi vm _ hv i, .same⟩
  · next hc =>
    obtain ⟨vm, hv, rfl⟩ := of_charge_eq_some hc
    exact ⟨w.setVM vmi { vm with ops := vm.ops + 1 }, rfl, fun k i => bal_ops w k vmi vm _ hv i, enter_local op vmi _⟩

theorem stepCore_live (B : List Nat) : ∀ c : Core, Den.Live c → ¬ Underflow c → Den.Live (stepCore B c)
  | ⟨.ev op vmi, k, w⟩, _, _ => by
    obtain ⟨w1, -, -, h⟩ := stepCore_ev_local B op vmi w
    exact h.live_at k
  | ⟨.ret v, fr :: k, w⟩, _, _ => (resume_local fr v w).live_at k
  | ⟨.raise e, fr :: k, w⟩, _, _ => (unwind_local fr e w).live_at k
  | ⟨.ret v, [], _⟩, _, h => absurd ⟨rfl, .inl ⟨v, rfl⟩⟩ h
  | ⟨.raise e, [], _⟩, _, h => absurd ⟨rfl, .inr ⟨e, rfl⟩⟩ h
  | ⟨.done _, _, _⟩, h, _ | ⟨.failed _, _, _⟩, h, _ => h.elim

theorem step_app (k0 : List Frame) : ∀ c : Cfg, ¬ Underflow c.core → step (c.app k0) = (step c).app k0
  | ⟨.ev op vmi, k, w, B⟩, _ => by
    obtain ⟨w1, -, -, h⟩ := stepCore_ev_local B op vmi w
    exact congrArg (Core.withBudgets · B) (h.app_append k k0)
  | ⟨.ret v, fr :: k, w, B⟩, _ => congrArg (Core.withBudgets · B) ((resume_local fr v w).app_append k k0)
  | ⟨.raise e, fr :: k, w, B⟩, _ => congrArg (Core.withBudgets · B) ((unwind_local fr e w).app_append k k0)
  | ⟨.ret v, [], _, _⟩, h => absurd ⟨rfl, .inl ⟨v, rfl⟩⟩ h
  | ⟨.raise e, [], _, _⟩, h => absurd ⟨rfl, .inr ⟨e, rfl⟩⟩ h
  | ⟨.done _, _, _, _⟩, _ | ⟨.failed _, _, _, _⟩, _ => rfl

theorem run_app (n : Nat) (c : Cfg) (k0 : List Frame) (h : ∀ i, i < n → ¬ Underflow (run i c).core) :
    run n (c.app k0) = (run n c).app k0 := by
  induction n generalizing c with
  | zero => rfl
  | succ n ih =>
    rw [run, run, step_app k0 c (h 0 (by omega))]
    exact ih (step c) (fun i hi => by have := h (i + 1) (by omega); rwa [run] at this)

theorem run_app_eq {n : Nat} {c c' : Cfg} (k0 : List Frame) (h : run n c = c')
    (hu : ∀ i, i < n → ¬ Underflow (run i c).core) : run n (c.app k0) = c'.app k0 := h ▸ run_app n c k0 hu

theorem run_live (n : Nat) (c : Cfg) (hl : Den.Live c.core) (h : ∀ i, i < n → ¬ Underflow (run i c).core) :
    Den.Live (run n c).core := by
  induction n generalizing c with
  | zero => exact hl
  | succ n ih =>
    exact ih (step c) (stepCore_live _ _ hl (h 0 (by omega))) (fun i hi => by have := h (i + 1) (by omega); rwa [run] at this)

theorem step_log : ∀ c : Cfg, ∃ new, (step c).w.log = new ++ c.w.log
  | ⟨.ev op vmi, k, w, B⟩ => by
    obtain ⟨w1, hl, -, h⟩ := stepCore_ev_local B op vmi w
    exact hl ▸ h.log_at k
  | ⟨.ret v, fr :: k, w, _⟩ => (resume_local fr v w).log_at k
  | ⟨.raise e, fr :: k, w, _⟩ => (unwind_local fr e w).log_at k
  | ⟨.ret _, [], _, _⟩ | ⟨.raise _, [], _, _⟩ | ⟨.done _, _, _, _⟩ | ⟨.failed _, _, _, _⟩ => ⟨[], rfl⟩

theorem run_log (n : Nat) (c : Cfg) : ∃ new, (run n c).w.log = new ++ c.w.log := by
  induction n generalizing c with
  | zero => exact ⟨[], rfl⟩
  | succ n ih =>
    obtain ⟨a, ha⟩ := step_log c
    obtain ⟨b, hb⟩ := ih (step c)
    exact ⟨b ++ a, by rw [run, hb, ha, List.append_assoc]⟩

theorem step_bal (i : Nat) : ∀ c : Cfg, bal (step c).w (step c).k i = bal c.w c.k i
  | ⟨.ev op vmi, k, w, B⟩ => by
    obtain ⟨w1, -, hb, h⟩ := stepCore_ev_local B op vmi w
    exact (h.bal_at k i).trans (hb k i)
  | ⟨.ret v, fr :: k, w, _⟩ => (resume_local fr v w).bal_at k i
  | ⟨.raise e, fr :: k, w, _⟩ => (unwind_local fr e w).bal_at k i
  | ⟨.ret _, [], _, _⟩ | ⟨.raise _, [], _, _⟩ | ⟨.done _, _, _, _⟩ | ⟨.failed _, _, _, _⟩ => rfl

theorem run_bal (n : Nat) (c : Cfg) (i : Nat) : bal (run n c).w (run n c).k i = bal c.w c.k i := by
  induction n generalizing c with
  | zero => rfl
  | succ n ih => rw [run, ih, step_bal]

theorem runUntil_bal (n : Nat) (c : Cfg) (i : Nat) : bal (runUntil n c).w (runUntil n c).k i = bal c.w c.k i := by
  induction n generalizing c with
  | zero => rfl
  | succ n ih =>
    rw [runUntil]
    split
    · rfl
    · rw [ih, step_bal]

end Sq
