/-
  The table of builtins as a finite case analysis; a call through the dispatcher as a call of an entry; and that what
  `extreme` (hence `min` / `max`, through the one function `bExtreme` defined here) and `sortedBy` return is among what
  they were given; a builtin's allocation and a `ret` extend the heap.
-/
import Sq.Builtins
import SqLemmas.HeapLemmas
namespace Sq

theorem forall_mem_callPureTable {Q : String × (List Val → BState → BR) → Prop} :
    (∀ p ∈ callPureTable, Q p) ↔
      Q ("len", b_len) ∧ Q ("int", b_int) ∧ Q ("float", b_float) ∧ Q ("str", b_str) ∧
      Q ("dict", b_dict) ∧ Q ("list", b_list) ∧ Q ("startswith", b_startswith) ∧ Q ("endswith", b_endswith) ∧
      Q ("lower", b_lower) ∧ Q ("upper", b_upper) ∧ Q ("strip", b_strip) ∧ Q ("replace", b_replace) ∧
      Q ("match", b_match) ∧ Q ("match_groups", b_match_groups) ∧ Q ("match_all", b_match_all) ∧ Q ("pretty", b_pretty) ∧
      Q ("keys", b_keys) ∧ Q ("values", b_values) ∧ Q ("items", b_items) ∧ Q ("sum", b_sum) ∧
      Q ("get", b_get) ∧ Q ("__getitem__", b_getitem) ∧ Q ("__delitem__", b_delitem) ∧ Q ("__setitem__", b_setitem) ∧
      Q ("__setitem_with_op__", b_setitem_with_op) ∧ Q ("join", b_join) ∧ Q ("split", b_split) ∧ Q ("round", b_round) ∧
      Q ("floor", b_floor) ∧ Q ("ceil", b_ceil) ∧ Q ("abs", b_abs) ∧ Q ("min", b_min) ∧
      Q ("max", b_max) ∧ Q ("rand", b_rand) ∧ Q ("push", b_push) ∧ Q ("pop", b_pop) ∧
      Q ("insert", b_insert) ∧ Q ("remove", b_remove) ∧ Q ("reversed", b_reversed) ∧ Q ("enumerate", b_enumerate) ∧
      Q ("shuffle", b_shuffle) ∧ Q ("index_of", b_index_of) := by
  simp only [callPureTable, List.forall_mem_cons, List.not_mem_nil, false_imp_iff, implies_true, and_true]

/-- which entry the name has is found by computation: the default proof walks the table up to the name -/
theorem callPure_eq {name : String} {args : List Val} {s : BState} (f : List Val → BState → BR)
    (hg : typeObjectGuard name args = false)
    (hf : callPureTable.find? (fun p => p.1 == name) = some (name, f) := by
      simp only [callPureTable, List.find?_cons, String.reduceBEq]) :
    callPure name args s = f args s := by
  simp only [callPure, hg, hf, Bool.false_eq_true, ↓reduceIte]

theorem callPure_ok {name : String} {args : List Val} {s : BState} {v : Val} {s' : BState}
    (h : callPure name args s = .ok (v, s')) :
    typeObjectGuard name args = false ∧ ∃ p ∈ callPureTable, p.1 = name ∧ p.2 args s = .ok (v, s') := by
  unfold callPure at h
  split at h
  · cases h
  · rename_i hg
    refine ⟨Bool.eq_false_iff.mpr hg, ?_⟩
    split at h
    · rename_i p hp
      exact ⟨p, List.mem_of_find?_eq_some hp, by simpa using List.find?_some hp, h⟩
    · cases h

/-- the two entries that subscript their first argument never see the type object `dict` there: the guard of `callPure`
    (the whole argument list for `__getitem__`, the first argument for `__setitem_with_op__`) has turned it away -/
theorem head_ne_dict_of_guard {name : String} {args : List Val} (hn : name = "__getitem__" ∨ name = "__setitem_with_op__")
    (h : typeObjectGuard name args = false) : args.head? ≠ some (.builtin "dict") := by
  intro e
  cases args with
  | nil => cases e
  | cons a r =>
    cases Option.some.inj e
    rcases hn with rfl | rfl <;> simp [typeObjectGuard, storesArgs, isTypeObject] at h

theorem extreme_go_mem (h : Heap) (isMax : Bool) : ∀ (ys : List Val) (best r : Val),
    extreme.go h isMax ys best = .ok r → r = best ∨ r ∈ ys := by
  intro ys
  induction ys with
  | nil => intro best r hr; simp [extreme.go] at hr; exact Or.inl hr.symm
  | cons y ys ih =>
    intro best r hr
    simp only [extreme.go] at hr
    split at hr
    · cases hr
    · rcases ih y r hr with e | e
      · exact Or.inr (by simp [e])
      · exact Or.inr (by simp [e])
    · rcases ih best r hr with e | e
      · exact Or.inl e
      · exact Or.inr (by simp [e])

theorem extreme_mem (h : Heap) (isMax : Bool) (xs : List Val) (r : Val) (hr : extreme h isMax xs = .ok r) : r ∈ xs := by
  cases xs with
  | nil => simp [extreme] at hr
  | cons x xs =>
    rcases extreme_go_mem h isMax xs x r hr with e | e
    · simp [e]
    · simp [e]

/-- the common body of `b_min` and `b_max`, so that the two entries share one lemma -/
def bExtreme (isMax : Bool) (args : List Val) (s : BState) : BR :=
  match args with
  | [] => .error .typeError
  | [c] => (match iterItems s.heap c with
    | .ok items => (extreme s.heap isMax items).map (·, s)
    | .error e => .error e)
  | vs => (extreme s.heap isMax vs).map (·, s)

theorem b_min_eq : b_min = bExtreme false := rfl
theorem b_max_eq : b_max = bExtreme true := rfl

theorem bExtreme_ok {isMax : Bool} {args : List Val} {s : BState} {v : Val} {s' : BState}
    (h : bExtreme isMax args s = .ok (v, s')) :
    s' = s ∧ (v ∈ args ∨ ∃ c items, args = [c] ∧ iterItems s.heap c = .ok items ∧ v ∈ items) := by
  have mem {xs : List Val} (h : (extreme s.heap isMax xs).map (·, s) = .ok (v, s')) : s' = s ∧ v ∈ xs := by
    obtain ⟨r, he, e⟩ := map_eq_ok h
    cases e
    exact ⟨rfl, extreme_mem _ _ _ _ he⟩
  unfold bExtreme at h
  split at h
  · cases h
  · next c =>
    split at h
    · next items hi => exact (mem h).imp_right fun hm => .inr ⟨c, items, rfl, hi, hm⟩
    · cases h
  · exact (mem h).imp_right .inl

theorem mergeRuns_mem (h : Heap) : ∀ (f : Nat) (xs ys acc r : List (Val × Val)), mergeRuns h f xs ys acc = .ok r →
    ∀ p, p ∈ r → p ∈ acc ∨ p ∈ xs ∨ p ∈ ys := by
  intro f
  induction f with
  | zero =>
    intro xs ys acc r hr p hp
    simp [mergeRuns] at hr; subst hr
    simpa [or_assoc] using hp
  | succ f ih =>
    intro xs ys acc r hr p hp
    cases xs with
    | nil => simp [mergeRuns] at hr; subst hr; simpa using hp
    | cons x xs =>
      cases ys with
      | nil => simp [mergeRuns] at hr; subst hr; simpa [or_assoc] using hp
      | cons y ys =>
        simp only [mergeRuns] at hr
        -- the head that moved to `acc` is still the head of `xs` or of `ys`
        split at hr
        · cases hr
        · have := ih _ _ _ _ hr p hp
          simp only [List.mem_cons] at this ⊢
          rcases this with (h1 | h1) | (h1 | h1) | h1 <;> simp [h1]
        · have := ih _ _ _ _ hr p hp
          simp only [List.mem_cons] at this ⊢
          rcases this with (h1 | h1) | h1 | (h1 | h1) <;> simp [h1]

theorem sortPairsAux_mem (h : Heap) : ∀ (f : Nat) (xs r : List (Val × Val)), sortPairsAux h f xs = .ok r →
    ∀ p, p ∈ r → p ∈ xs := by
  intro f
  induction f with
  | zero => intro xs r hr p hp; simp [sortPairsAux] at hr; subst hr; exact hp
  | succ f ih =>
    intro xs r hr p hp
    simp only [sortPairsAux] at hr
    split at hr
    · cases hr; exact hp
    · split at hr
      · rename_i a b ha hb
        rcases mergeRuns_mem h _ _ _ _ _ hr p hp with h1 | h1 | h1
        · cases h1
        · exact List.mem_of_mem_take (ih _ _ ha p h1)
        · exact List.mem_of_mem_drop (ih _ _ hb p h1)
      · cases hr
      · cases hr

theorem sortedBy_mem {h : Heap} {keys items : List Val} {rev : Bool} {r : List Val}
    (hs : sortedBy h keys items rev = .ok r) : ∀ v, v ∈ r → v ∈ items := by
  unfold sortedBy at hs
  split at hs
  · cases hs
  · dsimp only at hs
    have key : ∀ (ps rr : List (Val × Val)), (∀ p, p ∈ ps → p ∈ keys.zip items) → sortPairs h ps = .ok rr →
        ∀ v, v ∈ rr.map (·.2) → v ∈ items := by
      intro ps rr hps hrr v hv
      obtain ⟨p, hp, e⟩ := List.mem_map.mp hv
      have := hps p (sortPairsAux_mem h _ ps rr hrr p hp)
      rw [← e]
      obtain ⟨k, x⟩ := p
      exact (List.of_mem_zip this).2
    split at hs
    · obtain ⟨rr, hq, rfl⟩ := map_eq_ok hs
      exact fun v hv => key _ rr (fun p hp => List.mem_reverse.mp hp) hq v (List.mem_reverse.mp hv)
    · obtain ⟨rr, hq, rfl⟩ := map_eq_ok hs
      exact key _ rr (fun p hp => hp) hq

end Sq

namespace SqProps.C13
open Sq

theorem allocList_ext (s : BState) (xs : List Val) : HeapExt s.heap (allocList s xs).2.heap := by
  simpa [allocList] using alloc_ext s.heap (.list xs)

theorem allocDict_ext (s : BState) (kvs : List (Val × Val)) : HeapExt s.heap (allocDict s kvs).2.heap := by
  simpa [allocDict] using alloc_ext s.heap (.dict kvs)

theorem of_allocList {s : BState} {xs : List Val} {v : Val} {s' : BState}
    (h : allocList s xs = (v, s')) : HeapExt s.heap s'.heap := by
  have := allocList_ext s xs; rw [h] at this; exact this

theorem of_ret {s : BState} {r v : Val} {s' : BState} (h : ret r s = .ok (v, s')) : HeapExt s.heap s'.heap := by
  simp [ret] at h; rw [← h.2]; exact HeapExt.refl _

end SqProps.C13
