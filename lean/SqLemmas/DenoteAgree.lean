/-
  A core of the machine implements a fuel-indexed computation of the semantics (`Agree`);
  rules that build such agreement, one for each way the semantics puts computations together, one for a machine step.
-/
import SqLemmas.DenoteRun
set_option autoImplicit false
namespace Sq.Den

variable {B : List Nat}

theorem andThen_ret {r : Res} {g : Val → World → Res} {v : Val} {w1 : World} (h : r = some (.ret v, w1)) :
    andThen r g = g v w1 := by subst h; rfl

theorem andThen_raise {r : Res} {g : Val → World → Res} {e : PyErr} {w1 : World} (h : r = some (.raise e, w1)) :
    andThen r g = some (.raise e, w1) := by subst h; rfl

/-- the `match` by which Sq/Denote.lean hands every outcome on (to `popScope`, to `tryAct`), under a name -/
def andAlways (r : Res) (g : Out → World → Out × World) : Res := r.map fun p => g p.1 p.2

def Reaches (B : List Nat) (c : Core) (r : Res) : Prop := ∀ o w', r = some (o, w') → Fin B c o w'

theorem Reaches.of_none {c : Core} : Reaches B c none := fun _ _ h => nomatch h

theorem Reaches.finished (p : Out × World) : Reaches B (mkP p []) (some p) := fun _ _ h => by
  cases h; exact Steps.refl _

theorem Reaches.steps {c c' : Core} {r : Res} (s : Steps B c c') (h : Reaches B c' r) : Reaches B c r :=
  fun o w' e => s.trans (h o w' e)

theorem Reaches.frame {c c' : Core} {r : Res} {fr : Frame} {g : Out → World → Res} (h : Reaches B c r)
    (hc : c.app [fr] = c') (hk : ∀ o1 w1, Reaches B (after fr o1 [] w1) (g o1 w1)) :
    Reaches B c' (r.bind fun p => g p.1 p.2) := by
  intro o w' e
  subst hc
  cases r with
  | none => cases e
  | some p => exact (sub_then (h p.1 p.2 rfl) fr []).trans (hk p.1 p.2 o w' e)

/-- "for every fuel from some point on" and not "for some fuel": two such facts combine by taking the larger threshold
    (`Covers.frame`), with no appeal to monotonicity -/
def Covers (B : List Nat) (N : Nat) (c : Core) (ρ : Nat → Res) : Prop :=
  ∀ n, n < N → ∀ o w', FinN B c n o w' → ∃ f0, ∀ f, f0 ≤ f → ρ f = some (o, w')

section
variable {f N : Nat} {c c' : Core} {ρ : Nat → Res}

theorem Covers.finished (p : Out × World) : Covers B N (mkP p []) fun _ => some p :=
  fun _ _ _ _ hf => ⟨0, fun _ _ => by rw [(FinN.of_mkP p hf).2]⟩

theorem Covers.step (hu : ¬ Underflow c) (h : Covers B N (stepCore B c) ρ) : Covers B (N + 1) c ρ :=
  fun _ hn _ _ hf => by
    obtain ⟨m, rfl, hs⟩ := hf.step hu
    exact h m (by omega) _ _ hs

theorem Covers.of_fuel_succ (h : Covers B N c fun f => ρ (f + 1)) : Covers B N c ρ := fun n hn o w' hf => by
  obtain ⟨f0, h0⟩ := h n hn o w' hf
  exact ⟨f0 + 1, fun f hf0 => by obtain ⟨f', rfl⟩ : ∃ f', f = f' + 1 := ⟨f - 1, by omega⟩; exact h0 f' (by omega)⟩

theorem Covers.fuel_succ (h : Covers B N c ρ) : Covers B N c fun f => ρ (f + 1) := fun n hn o w' hf => by
  obtain ⟨f0, h0⟩ := h n hn o w' hf
  exact ⟨f0, fun f hf0 => h0 (f + 1) (by omega)⟩

theorem Covers.frame {fr : Frame} {g : Nat → Out → World → Res} (h : Covers B N c ρ) (hc : c.app [fr] = c')
    (hk : ∀ o1 w1, Covers B N (after fr o1 [] w1) fun f => g f o1 w1) :
    Covers B (N + 1) c' fun f => (ρ f).bind fun p => g f p.1 p.2 := by
  intro n hn o w' hf
  obtain ⟨n1, o1, w1, m, hF1, rfl, hrest⟩ := hf.split_of hc
  obtain ⟨f1, h1⟩ := h n1 (by omega) o1 w1 hF1
  obtain ⟨f2, h2⟩ := hk o1 w1 m (by omega) o w' hrest
  exact ⟨max f1 f2, fun f hf0 => by simp only [h1 f (by omega)]; exact h2 f (by omega)⟩

/-- Two bounds, because the semantics spends fuel where the machine takes no step (`applyVal` → `startThen` → `iterate` →
    `applyVal` is one transition).  `mono` speaks of `ρ` alone; it is carried here because the monotonicity of a
    computation put together from parts needs that of the parts, so the same rules build it. -/
structure Agree (B : List Nat) (f N : Nat) (c : Core) (ρ : Nat → Res) : Prop where
  sound : ∀ i, i < f → Reaches B c (ρ i)
  mono : ∀ i, i < f → ∀ x, ρ i = some x → ρ (i + 1) = some x
  covers : Covers B N c ρ

theorem Agree.zero : Agree B 0 0 c ρ :=
  ⟨fun _ hi => absurd hi (Nat.not_lt_zero _), fun _ hi => absurd hi (Nat.not_lt_zero _),
   fun _ hn => absurd hn (Nat.not_lt_zero _)⟩

theorem Agree.finished (p : Out × World) : Agree B f N (mkP p []) fun _ => some p :=
  ⟨fun _ _ => Reaches.finished p, fun _ _ _ h => h, Covers.finished p⟩

theorem Agree.lower_steps (h : Agree B f (N + 1) c ρ) : Agree B f N c ρ :=
  ⟨h.sound, h.mono, fun n hn => h.covers n (by omega)⟩

theorem Agree.lower_fuel (h : Agree B (f + 1) N c ρ) : Agree B f N c ρ :=
  ⟨fun i hi => h.sound i (by omega), fun i hi => h.mono i (by omega), h.covers⟩

theorem Agree.step (hu : ¬ Underflow c) (h : Agree B f N (stepCore B c) ρ) : Agree B f (N + 1) c ρ :=
  ⟨fun i hi => .steps (.one c hu) (h.sound i hi), h.mono, .step hu h.covers⟩

theorem Agree.of_fuel_succ (h0 : ρ 0 = none) (h : Agree B f N c fun i => ρ (i + 1)) : Agree B (f + 1) N c ρ :=
  ⟨fun i hi => match i with
    | 0 => h0 ▸ .of_none
    | i + 1 => h.sound i (by omega),
   fun i hi x hx => match i with
    | 0 => nomatch h0 ▸ hx
    | i + 1 => h.mono i (by omega) x hx,
   h.covers.of_fuel_succ⟩

theorem Agree.fuel_succ (h : Agree B (f + 1) N c ρ) : Agree B f N c fun i => ρ (i + 1) :=
  ⟨fun i hi => h.sound (i + 1) (by omega), fun i hi => h.mono (i + 1) (by omega), h.covers.fuel_succ⟩

theorem Agree.frame {fr : Frame} {g : Nat → Out → World → Res} (h : Agree B f N c ρ) (hc : c.app [fr] = c')
    (hk : ∀ o1 w1, Agree B f N (after fr o1 [] w1) fun i => g i o1 w1) :
    Agree B f (N + 1) c' fun i => (ρ i).bind fun p => g i p.1 p.2 :=
  ⟨fun i hi => (h.sound i hi).frame hc fun o1 w1 => (hk o1 w1).sound i hi,
   fun i hi x hx => by
    cases hr : ρ i with
    | none => simp [hr] at hx
    | some p =>
      simp only [hr, h.mono i hi p hr, Option.bind_some] at hx ⊢
      exact (hk p.1 p.2).mono i hi x hx,
   h.covers.frame hc fun o1 w1 => (hk o1 w1).covers⟩

theorem Agree.andThen {fr : Frame} {g : Nat → Val → World → Res} (h : Agree B f N c ρ) (hc : c.app [fr] = c')
    (hunw : ∀ e k w, unwind fr e k w = mkRaise e k w) (hk : ∀ v w1, Agree B f N (resume fr v [] w1) fun i => g i v w1) :
    Agree B f (N + 1) c' fun i => andThen (ρ i) (g i) := by
  have := h.frame (g := fun i o1 w1 => match o1 with | .ret v => g i v w1 | .raise e => some (.raise e, w1)) hc
    fun o1 w1 => by
      cases o1 with
      | ret v => exact hk v w1
      | raise e => simp only [after, hunw]; exact .finished (.raise e, w1)
  have e : (fun i => Den.andThen (ρ i) (g i)) = fun i => (ρ i).bind fun p =>
      match p.1 with | .ret v => g i v p.2 | .raise e => some (.raise e, p.2) := by
    funext i; rcases ρ i with _ | ⟨_ | _, _⟩ <;> rfl
  rw [e]; exact this

theorem Agree.andAlways {fr : Frame} {g : Out → World → Out × World} (h : Agree B f N c ρ) (hc : c.app [fr] = c')
    (hfr : ∀ o1 w1, after fr o1 [] w1 = mkP (g o1 w1) []) : Agree B f (N + 1) c' fun i => andAlways (ρ i) g := by
  have := h.frame (g := fun _ o1 w1 => some (g o1 w1)) hc fun o1 w1 => hfr o1 w1 ▸ .finished _
  have e : (fun i => Den.andAlways (ρ i) g) = fun i => (ρ i).bind fun p => some (g p.1 p.2) := by
    funext i; cases ρ i <;> rfl
  rw [e]; exact this

end

theorem Agree.fin {c : Core} {ρ : Nat → Res} (h : ∀ k, Agree B k k c ρ) {f : Nat} {o : Out} {w' : World}
    (hf : ρ f = some (o, w')) : Fin B c o w' := (h (f + 1)).sound f (Nat.lt_succ_self f) o w' hf

theorem Agree.mono_le {c : Core} {ρ : Nat → Res} (h : ∀ k, Agree B k k c ρ) {f g : Nat} (hfg : f ≤ g) {r : Out × World}
    (hf : ρ f = some r) : ρ g = some r := by
  induction hfg with
  | refl => exact hf
  | @step m _ ih => exact (h (m + 1)).mono m (Nat.lt_succ_self m) r ih

theorem Agree.complete {c : Core} {ρ : Nat → Res} (h : ∀ k, Agree B k k c ρ) {n : Nat} {o : Out} {w' : World}
    (hn : FinN B c n o w') : ∃ f, ρ f = some (o, w') :=
  let ⟨f0, h0⟩ := (h (n + 1)).covers n (Nat.lt_succ_self n) o w' hn
  ⟨f0, h0 f0 (Nat.le_refl _)⟩

end Sq.Den
