/-
  Dicts.  First what a write, a delete and a lookup do to the association list the model keeps for a dict object, whichever
  comparison finds the key (`Bound`, `*_sublist`, `dictFind_mem`: what the invariants and the size bound need).  Then the
  refinement (C14): under any sequence of writes and deletes under string keys the association list refines the mathematical
  dict — a finite map from string keys together with the insertion order of its keys (what `keys` / `values` / `items` /
  `len` observe).
-/
import Sq.Builtins
import SqLemmas.HeapLemmas
namespace Sq

/-- what binding a key does to an association list, whichever comparison finds the key: one entry gets the new value and
    keeps its key and place, or a new entry is appended -/
def Bound (kvs : List (Val × Val)) (k v : Val) (out : List (Val × Val)) : Prop :=
  (∃ i k' v', kvs[i]? = some (k', v') ∧ out = kvs.set i (k', v)) ∨ out = kvs ++ [(k, v)]

theorem Bound.cons {kvs out : List (Val × Val)} {k v : Val} (p : Val × Val) :
    Bound kvs k v out → Bound (p :: kvs) k v (p :: out)
  | .inl ⟨i, k', v', hi, ho⟩ => .inl ⟨i + 1, k', v', hi, congrArg (p :: ·) ho⟩
  | .inr ho => .inr (congrArg (p :: ·) ho)

theorem Bound.length_le {kvs out : List (Val × Val)} {k v : Val} : Bound kvs k v out → out.length ≤ kvs.length + 1
  | .inl ⟨_, _, _, _, ho⟩ => by simp [ho]
  | .inr ho => by simp [ho]

theorem Bound.forall {kvs out : List (Val × Val)} {k v : Val} {Q : Val × Val → Prop} (hb : Bound kvs k v out)
    (hk : ∀ p, p ∈ kvs → Q p) (hv : ∀ k' v', (k', v') ∈ kvs → Q (k', v)) (hn : Q (k, v)) : ∀ p, p ∈ out → Q p := by
  intro p hp
  rcases hb with ⟨i, k', v', hi, rfl⟩ | rfl
  · rcases List.mem_or_eq_of_mem_set hp with h | rfl
    · exact hk p h
    · exact hv k' v' (List.mem_of_getElem? hi)
  · rcases List.mem_append.mp hp with h | h
    · exact hk p h
    · rw [List.mem_singleton.mp h]; exact hn

theorem kvSet_bound (n : Name) (v : Val) : ∀ kvs, Bound kvs (.str n) v (kvSet kvs n v)
  | [] => .inr rfl
  | (k', v') :: r => by
    simp only [kvSet]
    split
    · exact .inl ⟨0, k', v', rfl, rfl⟩
    · exact (kvSet_bound n v r).cons _

theorem dictSetAux_bound (h : Heap) (k v : Val) : ∀ kvs out, dictSetAux h kvs k v = .ok out → Bound kvs k v out
  | [], out, ho => .inr (Except.ok.inj ho).symm
  | (k', v') :: r, out, ho => by
    simp only [dictSetAux] at ho
    split at ho
    · cases ho
    · cases ho; exact .inl ⟨0, k', v', rfl, rfl⟩
    · obtain ⟨out', hr, rfl⟩ := map_eq_ok ho
      exact (dictSetAux_bound h k v r out' hr).cons _

theorem dictSet_bound {h : Heap} {kvs : List (Val × Val)} {k v : Val} {out : List (Val × Val)}
    (ho : dictSet h kvs k v = .ok out) : Bound kvs k v out := by
  unfold dictSet at ho
  split at ho
  · cases ho; exact kvSet_bound _ v kvs
  · exact dictSetAux_bound h k v kvs out ho

theorem dictSet_length_le (h : Heap) (kvs : List (Val × Val)) (k v : Val) (out : List (Val × Val))
    (ho : dictSet h kvs k v = .ok out) : out.length ≤ kvs.length + 1 := (dictSet_bound ho).length_le

theorem kvErase_sublist (n : Name) : ∀ kvs, (kvErase kvs n).Sublist kvs
  | [] => .slnil
  | (k', v') :: r => by
    simp only [kvErase]
    split
    · exact .cons _ (.refl _)
    · exact .cons_cons _ (kvErase_sublist n r)

theorem dictEraseAux_sublist (h : Heap) (k : Val) : ∀ kvs out, dictEraseAux h kvs k = .ok out → out.Sublist kvs
  | [], out, ho => by cases ho; exact .slnil
  | (k', v') :: r, out, ho => by
    simp only [dictEraseAux] at ho
    split at ho
    · cases ho
    · cases ho; exact .cons _ (.refl _)
    · obtain ⟨out', hr, rfl⟩ := map_eq_ok ho
      exact .cons_cons _ (dictEraseAux_sublist h k r out' hr)

theorem dictErase_sublist {h : Heap} {kvs : List (Val × Val)} {k : Val} {out : List (Val × Val)}
    (ho : dictErase h kvs k = .ok out) : out.Sublist kvs := by
  unfold dictErase at ho
  split at ho
  · cases ho; exact kvErase_sublist _ kvs
  · exact dictEraseAux_sublist h k kvs out ho

theorem dictFindAux_mem : ∀ (f : Nat) (h : Heap) (kvs : List (Val × Val)) (k v : Val),
    dictFindAux f h kvs k = some (some v) → ∃ k', (k', v) ∈ kvs
  | 0, _, _, _, _, hf => by simp [dictFindAux] at hf
  | _ + 1, _, [], _, _, hf => by simp [dictFindAux] at hf
  | f + 1, h, (k', v') :: r, k, v, hf => by
    simp only [dictFindAux] at hf
    split at hf
    · cases hf; exact ⟨k', List.mem_cons_self ..⟩
    · exact (dictFindAux_mem f h r k v hf).imp fun _ => List.mem_cons_of_mem _
    · cases hf

theorem dictFind_mem {h : Heap} {kvs : List (Val × Val)} {k v : Val} (hf : dictFind h kvs k = .ok (some v)) :
    ∃ k', (k', v) ∈ kvs := by
  unfold dictFind at hf
  split at hf
  · obtain ⟨p, hp, rfl⟩ := Option.map_eq_some_iff.mp (Except.ok.inj hf)
    exact ⟨p.1, List.mem_of_find?_eq_some hp⟩
  · split at hf
    · cases hf; exact dictFindAux_mem _ _ _ _ _ ‹_›
    · cases hf

/-- one container-level operation on a dict, after the key cast (`_dict_key_cast` → `str`) -/
inductive DOp
  | set (n : Name) (v : Val)
  | del (n : Name)

def specMap (m : Name → Option Val) : DOp → (Name → Option Val)
  | .set n v => fun k => if k = n then some v else m k
  | .del n => fun k => if k = n then none else m k

/-- the insertion order of the keys (Python: a rebound key keeps its place, a deleted key leaves) -/
def specOrder (o : List Name) : DOp → List Name
  | .set n _ => if n ∈ o then o else o ++ [n]
  | .del n => o.filter (· ≠ n)

def implStep (kvs : List (Val × Val)) : DOp → List (Val × Val)
  | .set n v => kvSet kvs n v
  | .del n => kvErase kvs n

def absMap (kvs : List (Val × Val)) : Name → Option Val :=
  fun n => (kvs.find? (fun kv => keyIsName kv.1 n)).map (·.2)

def keyName : Val → Option Name
  | .str s => some s
  | _ => none

def absOrder (kvs : List (Val × Val)) : List Name := kvs.filterMap (fun kv => keyName kv.1)

def WFD (kvs : List (Val × Val)) : Prop := (∀ p, p ∈ kvs → ∃ s, p.1 = .str s) ∧ (absOrder kvs).Nodup

theorem keyIsName_str (s n : Name) : keyIsName (.str s) n = true ↔ s = n := by
  simp [keyIsName]

theorem keyIsName_eq {k : Val} {n : Name} (h : keyIsName k n = true) : k = .str n := by
  cases k <;> simp_all [keyIsName]

theorem absMap_nil (n : Name) : absMap [] n = none := rfl

theorem wfd_nil : WFD [] := ⟨fun p hp => (by cases hp), by simp [absOrder]⟩

theorem absMap_cons (p : Val × Val) (r : List (Val × Val)) (n : Name) :
    absMap (p :: r) n = if keyIsName p.1 n then some p.2 else absMap r n := by
  unfold absMap
  rw [List.find?_cons]
  cases keyIsName p.1 n <;> rfl

theorem absMap_cons_str (s : Name) (v : Val) (r : List (Val × Val)) (n : Name) :
    absMap ((.str s, v) :: r) n = if n = s then some v else absMap r n :=
  (absMap_cons _ r n).trans (ite_congr (propext ((keyIsName_str s n).trans eq_comm)) (fun _ => rfl) (fun _ => rfl))

theorem absOrder_cons_str (s : Name) (v : Val) (r : List (Val × Val)) :
    absOrder ((.str s, v) :: r) = s :: absOrder r := by
  simp [absOrder, keyName]

theorem kvSet_cons_str (s : Name) (v' : Val) (r : List (Val × Val)) (n : Name) (v : Val) :
    kvSet ((.str s, v') :: r) n v = if s = n then (.str s, v) :: r else (.str s, v') :: kvSet r n v := by
  simp [kvSet, keyIsName]

theorem kvErase_cons_str (s : Name) (v' : Val) (r : List (Val × Val)) (n : Name) :
    kvErase ((.str s, v') :: r) n = if s = n then r else (.str s, v') :: kvErase r n := by
  simp [kvErase, keyIsName]

theorem strKeys_cons {kv : Val × Val} {r : List (Val × Val)} (hs : ∀ p, p ∈ kv :: r → ∃ s, p.1 = .str s) :
    ∃ s v, kv = (.str s, v) ∧ ∀ p, p ∈ r → ∃ s, p.1 = .str s := by
  obtain ⟨k, v⟩ := kv
  obtain ⟨s, rfl⟩ : ∃ s, k = .str s := hs (k, v) (List.mem_cons_self ..)
  exact ⟨s, v, rfl, fun p hp => hs p (List.mem_cons_of_mem _ hp)⟩

theorem wfd_cons {kv : Val × Val} {r : List (Val × Val)} :
    WFD (kv :: r) ↔ ∃ s v, kv = (.str s, v) ∧ s ∉ absOrder r ∧ WFD r := by
  constructor
  · intro hw
    obtain ⟨s, v, rfl, hr⟩ := strKeys_cons hw.1
    have hn := hw.2
    rw [absOrder_cons_str, List.nodup_cons] at hn
    exact ⟨s, v, rfl, hn.1, hr, hn.2⟩
  · rintro ⟨s, v, rfl, hs, hr⟩
    refine ⟨fun p hp => ?_, ?_⟩
    · rcases List.mem_cons.mp hp with rfl | hp
      · exact ⟨s, rfl⟩
      · exact hr.1 p hp
    · rw [absOrder_cons_str]
      exact List.nodup_cons.mpr ⟨hs, hr.2⟩

theorem absMap_none_of_not_mem (kvs : List (Val × Val)) (hw : WFD kvs) (n : Name)
    (h : n ∉ absOrder kvs) : absMap kvs n = none := by
  induction kvs with
  | nil => rfl
  | cons kv r ih =>
    obtain ⟨s, v, rfl, _, hr⟩ := wfd_cons.mp hw
    rw [absOrder_cons_str, List.mem_cons, not_or] at h
    rw [absMap_cons_str, if_neg h.1]
    exact ih hr h.2

theorem absMap_kvSet_self (kvs : List (Val × Val)) (n : Name) (v : Val) : absMap (kvSet kvs n v) n = some v := by
  induction kvs with
  | nil => rw [kvSet, absMap_cons_str, if_pos rfl]
  | cons kv r ih =>
    obtain ⟨k, v'⟩ := kv
    by_cases hk : keyIsName k n
    · rw [kvSet, if_pos hk, absMap_cons, if_pos hk]
    · rw [kvSet, if_neg hk, absMap_cons, if_neg hk, ih]

/-- an entry `kvSet` rewrites has the key `n`, which a lookup of `k ≠ n` passes over -/
theorem absMap_kvSet_ne (kvs : List (Val × Val)) (n : Name) (v : Val) (k : Name) (hk : k ≠ n) :
    absMap (kvSet kvs n v) k = absMap kvs k := by
  induction kvs with
  | nil => rw [kvSet, absMap_cons_str, if_neg hk]
  | cons kv r ih =>
    obtain ⟨k', v'⟩ := kv
    simp only [kvSet]
    split
    · rename_i h
      obtain rfl := keyIsName_eq h
      rw [absMap_cons_str, absMap_cons_str, if_neg hk, if_neg hk]
    · rw [absMap_cons, absMap_cons, ih]

theorem absOrder_kvSet (kvs : List (Val × Val)) (hs : ∀ p, p ∈ kvs → ∃ s, p.1 = .str s) (n : Name) (v : Val) :
    absOrder (kvSet kvs n v) = if n ∈ absOrder kvs then absOrder kvs else absOrder kvs ++ [n] := by
  induction kvs with
  | nil => simp [kvSet, absOrder, keyName]
  | cons kv r ih =>
    obtain ⟨s, v', rfl, hr⟩ := strKeys_cons hs
    rw [kvSet_cons_str]
    by_cases hsn : s = n
    · subst hsn; simp [absOrder_cons_str]
    · rw [if_neg hsn, absOrder_cons_str, absOrder_cons_str, ih hr]
      by_cases hm : n ∈ absOrder r <;> simp [hm, Ne.symm hsn]

theorem strKeys_kvSet (kvs : List (Val × Val)) (hs : ∀ p, p ∈ kvs → ∃ s, p.1 = .str s) (n : Name) (v : Val) :
    ∀ p, p ∈ kvSet kvs n v → ∃ s, p.1 = .str s :=
  (kvSet_bound n v kvs).forall hs (fun k' v' h => hs (k', v') h) ⟨n, rfl⟩

theorem kvSet_refines (kvs : List (Val × Val)) (hw : WFD kvs) (n : Name) (v : Val) :
    absMap (kvSet kvs n v) = specMap (absMap kvs) (.set n v) ∧
    absOrder (kvSet kvs n v) = specOrder (absOrder kvs) (.set n v) ∧ WFD (kvSet kvs n v) := by
  have ho := absOrder_kvSet kvs hw.1 n v
  refine ⟨funext fun k => ?_, ho, strKeys_kvSet kvs hw.1 n v, ?_⟩
  · simp only [specMap]
    split
    · rename_i h; subst h; exact absMap_kvSet_self kvs k v
    · rename_i h; exact absMap_kvSet_ne kvs n v k h
  rw [ho]
  split
  · exact hw.2
  · rename_i hn
    exact List.nodup_append.mpr ⟨hw.2, by simp, by simpa using fun a ha (e : a = n) => hn (e ▸ ha)⟩

theorem kvErase_refines (kvs : List (Val × Val)) (hw : WFD kvs) (n : Name) :
    absMap (kvErase kvs n) = specMap (absMap kvs) (.del n) ∧
    absOrder (kvErase kvs n) = specOrder (absOrder kvs) (.del n) ∧ WFD (kvErase kvs n) := by
  induction kvs with
  | nil => exact ⟨funext fun k => by simp [kvErase, specMap, absMap_nil], by simp [kvErase, specOrder, absOrder], wfd_nil⟩
  | cons kv r ih =>
    obtain ⟨s, v', rfl, hsr, hr⟩ := wfd_cons.mp hw
    obtain ⟨ih1, ih2, ih3⟩ := ih hr
    rw [kvErase_cons_str]
    by_cases hsn : s = n
    · subst hsn
      rw [if_pos rfl]
      refine ⟨funext fun k => ?_, ?_, hr⟩
      · simp only [specMap, absMap_cons_str]
        split
        · rename_i h; subst h; exact absMap_none_of_not_mem r hr k hsr
        · rfl
      · simp only [specOrder, absOrder_cons_str, List.filter_cons, ne_eq, not_true, decide_false]
        exact (List.filter_eq_self.mpr fun a ha => by simpa using fun (e : a = s) => hsr (e ▸ ha)).symm
    · rw [if_neg hsn]
      refine ⟨funext fun k => ?_, ?_, wfd_cons.mpr ⟨s, v', rfl, ?_, ih3⟩⟩
      · rw [absMap_cons_str, ih1]
        simp only [specMap, absMap_cons_str]
        by_cases h : k = s
        · subst h; simp [hsn]
        · simp [h]
      · rw [absOrder_cons_str, ih2]
        simp [specOrder, absOrder_cons_str, hsn]
      · rw [ih2]
        exact fun hm => hsr (List.mem_filter.mp hm).1

theorem implStep_refines (kvs : List (Val × Val)) (hw : WFD kvs) (op : DOp) :
    absMap (implStep kvs op) = specMap (absMap kvs) op ∧
    absOrder (implStep kvs op) = specOrder (absOrder kvs) op ∧ WFD (implStep kvs op) := by
  cases op with
  | set n v => exact kvSet_refines kvs hw n v
  | del n => exact kvErase_refines kvs hw n

theorem ops_refine_dict (ops : List DOp) : ∀ (kvs : List (Val × Val)), WFD kvs →
    absMap (ops.foldl implStep kvs) = ops.foldl specMap (absMap kvs) ∧
    absOrder (ops.foldl implStep kvs) = ops.foldl specOrder (absOrder kvs) ∧
    WFD (ops.foldl implStep kvs) := by
  induction ops with
  | nil => intro kvs hw; exact ⟨rfl, rfl, hw⟩
  | cons op rest ih =>
    intro kvs hw
    obtain ⟨h1, h2, h3⟩ := implStep_refines kvs hw op
    obtain ⟨i1, i2, i3⟩ := ih (implStep kvs op) h3
    simp only [List.foldl_cons]
    rw [i1, i2, h1, h2]
    exact ⟨rfl, rfl, i3⟩

theorem keys_are_order (kvs : List (Val × Val)) (hs : ∀ p, p ∈ kvs → ∃ s, p.1 = .str s) :
    kvs.map (·.1) = (absOrder kvs).map Val.str := by
  induction kvs with
  | nil => rfl
  | cons kv r ih =>
    obtain ⟨s, v, rfl, hr⟩ := strKeys_cons hs
    rw [absOrder_cons_str, List.map_cons, List.map_cons, ih hr]

theorem len_is_order_length (kvs : List (Val × Val)) (hs : ∀ p, p ∈ kvs → ∃ s, p.1 = .str s) :
    kvs.length = (absOrder kvs).length := by
  simpa using congrArg List.length (keys_are_order kvs hs)

theorem entry_is_mapped (kvs : List (Val × Val)) (hw : WFD kvs) (s : Name) (v : Val)
    (hm : (Val.str s, v) ∈ kvs) : absMap kvs s = some v := by
  induction kvs with
  | nil => cases hm
  | cons kv r ih =>
    obtain ⟨s', v', rfl, hsr, hr⟩ := wfd_cons.mp hw
    rw [absMap_cons_str]
    rcases List.mem_cons.mp hm with e | e
    · cases e; simp
    · have hne : s ≠ s' := fun e' => hsr (e' ▸ List.mem_filterMap.mpr ⟨(Val.str s, v), e, rfl⟩)
      rw [if_neg hne]
      exact ih hr e

/-- binding a key the dict does not hold appends an entry, which deleting the key takes away again -/
theorem kvErase_kvSet_fresh (n : Name) (v : Val) : ∀ kvs : List (Val × Val), (∀ p ∈ kvs, keyIsName p.1 n = false) →
    kvErase (kvSet kvs n v) n = kvs
  | [], _ => by simp [kvSet, kvErase, keyIsName]
  | (k, v') :: r, hno => by
    have hk : keyIsName k n = false := hno (k, v') (List.mem_cons_self ..)
    simp only [kvSet, kvErase, hk, Bool.false_eq_true, if_false]
    rw [kvErase_kvSet_fresh n v r fun p hp => hno p (List.mem_cons_of_mem _ hp)]

end Sq
