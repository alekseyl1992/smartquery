/-
  Text that the lexer passes over without a token, inserted at a point the lexer passes through
  (`LexReach`: between two steps, so not inside a token), changes neither the tokens, up to their stamps, nor the parse.
-/
import SqLemmas.LexMove
import SqLemmas.LexCont
import SqLemmas.ParseMap
namespace Sq

theorem lexAll_acc (st : LexSt) (s : List Char) (acc : List Token) : lexAll st s acc = preOut acc (lexAll st s []) :=
  lexAllAux_acc _ st s acc

theorem lexAll_move (dp dl : Nat) (st : LexSt) (s : List Char) :
    lexAll ((st.shift dp).lshift dl) s [] = lshiftOut dl (shiftOut dp (lexAll st s [])) :=
  lexAllAux_move dp dl _ st s

/-- what an insertion theorem asks of the inserted text `b :: tail`: it begins with a separator; from the state reached, `st1`,
    the lexer passes over it and stands before `post` with the stamps moved by `dp`, `dl`; and so it does when a comment of the
    old text runs up to the insertion point and swallows the first inserted line -/
def Passes (b : Char) (tail : List Char) (dp dl : Nat) (st1 : LexSt) (post : List Char) : Prop :=
  isSepC b ∧ (∀ acc0, lexAll st1 (b :: tail) acc0 = lexAll ((st1.shift dp).lshift dl) post acc0) ∧
  (b ≠ '\n' → (post = [] ∨ ∃ t, post = '\n' :: t) → ∀ acc0,
    lexAll (st1.shift (1 + (tail.length - (dropLine tail).length))) (dropLine tail) acc0 =
      lexAll ((st1.shift dp).lshift dl) post acc0)

theorem passes_blank {b : Char} (hb : isBlank b) (st1 : LexSt) (post : List Char) : Passes b post 1 0 st1 post :=
  ⟨isSepC_of_blank hb, fun acc0 => by rw [lexAll_step, lexStep_blank st1 b hb post]; rfl,
   fun _ hshape acc0 => by rw [dropLine_fix post hshape, Nat.sub_self]; rfl⟩

theorem passes_comment {cs post : List Char} (hcs : nl cs = 0) (hp : post = [] ∨ ∃ t, post = '\n' :: t) (st1 : LexSt) :
    Passes '#' (cs ++ post) (1 + cs.length) 0 st1 post :=
  ⟨.inr (.inr (.inl rfl)), fun acc0 => by rw [lexAll_step, lexStep_comment st1 cs post hcs hp]; rfl,
   fun _ _ acc0 => by
    rw [dropLine_append cs post hcs, dropLine_fix post hp, List.length_append, Nat.add_sub_cancel]; rfl⟩

theorem passes_lf {st1 : LexSt} (hd : st1.depth ≠ 0) (post : List Char) : Passes '\n' post 1 1 st1 post :=
  ⟨.inr (.inr (.inr (.inl rfl))), fun acc0 => by rw [lexAll_step, lexStep_lf, if_neg hd], fun hne => absurd rfl hne⟩

theorem passes_crlf {st1 : LexSt} (hd : st1.depth ≠ 0) (post : List Char) : Passes '\r' ('\n' :: post) 2 1 st1 post :=
  ⟨.inr (.inr (.inr (.inr rfl))), fun acc0 => by rw [lexAll_step, lexStep_crlf, if_neg hd],
   fun _ _ acc0 => by
    -- a comment of the old text swallowed the carriage return: the line feed is skipped next
    have hd' : (st1.shift (1 + 0)).depth ≠ 0 := hd
    rw [dropLine_fix _ (.inr ⟨post, rfl⟩), Nat.sub_self, lexAll_step, lexStep_lf, if_neg hd']
    rfl⟩

/-- `hins`, `hline`: the two clauses of `Passes`, for any state `T` to stand in before `post` -/
theorem reach_with_insert (b : Char) (hb : isSepC b) (tail : List Char) (T : LexSt) {post : List Char}
    {st s acc st1 acc1} (h : LexReach post st s acc st1 acc1)
    (hins : ∀ acc0, lexAll st1 (b :: tail) acc0 = lexAll T post acc0)
    (hline : b ≠ '\n' → (post = [] ∨ ∃ t, post = '\n' :: t) → ∀ acc0,
      lexAll (st1.shift (1 + (tail.length - (dropLine tail).length))) (dropLine tail) acc0 = lexAll T post acc0) :
    ∃ u, s = u ++ post ∧ lexAll st (u ++ b :: tail) acc = lexAll T post acc1 := by
  induction h with
  | here st0 acc0 =>
    refine ⟨[], rfl, ?_⟩
    rw [List.nil_append]
    exact hins acc0
  | @tok st0 s0 t st' r acc0 st2 acc2 hs hrest ih =>
    obtain ⟨u', er, ihq⟩ := ih hins hline
    obtain ⟨u, es, hz⟩ := lexStep_cont_tok st0 s0 b hb tail post hs
    have hcont : Cont b tail post r (u' ++ b :: tail) := by rw [er]; exact Cont.append u'
    have hside : (∃ t, (u' ++ b :: tail) = b :: t) ∨ ∀ e, lexStep st' r ≠ .err e := by
      rcases reach_next hrest with h1 | h1
      · left
        have : u' = [] := List.self_eq_append_left.mp (h1.symm.trans er)
        rw [this, List.nil_append]
        exact ⟨tail, rfl⟩
      · exact Or.inr h1
    refine ⟨u ++ u', by rw [es, er]; simp, ?_⟩
    rw [List.append_assoc, lexAll_step, hz _ hcont hside]
    exact ihq
  | @skip st0 s0 st' r acc0 st2 acc2 hs hrest ih =>
    obtain ⟨u', er, ihq⟩ := ih hins hline
    obtain ⟨u, es, hz⟩ := lexStep_cont_skip st0 s0 b tail post hs
    have hcont : Cont b tail post r (u' ++ b :: tail) := by rw [er]; exact Cont.append u'
    refine ⟨u ++ u', by rw [es, er]; simp, ?_⟩
    rw [List.append_assoc, lexAll_step]
    rcases hz _ hcont with h1 | ⟨hbn, hrp, hzeq, hshape, h1⟩
    · rw [h1]; exact ihq
    · -- a comment of the old text ran up to the insertion point: it swallows the insertion up to the end of its line
      rw [h1]
      subst hrp
      obtain ⟨rfl, rfl⟩ := reach_self hrest
      exact hline hbn hshape _

theorem lex_insert {b : Char} {tail : List Char} {dp dl : Nat} {post s : List Char} {st1 : LexSt} {acc1 : List Token}
    (h : LexReach post LexSt.init s [] st1 acc1) (hp : Passes b tail dp dl st1 post) :
    ∃ u, s = u ++ post ∧
      lexFrom LexSt.init s = preOut acc1 (lexAll st1 post []) ∧
      lexFrom LexSt.init (u ++ b :: tail) = preOut acc1 (lshiftOut dl (shiftOut dp (lexAll st1 post []))) := by
  obtain ⟨u, es, hnew⟩ := reach_with_insert b hp.1 tail _ h hp.2.1 hp.2.2
  refine ⟨u, es, ?_, ?_⟩
  · rw [lexFrom_eq, reach_lexAll h, lexAll_acc]
  · rw [lexFrom_eq, hnew, lexAll_acc, lexAll_move]

theorem lex_extra_blank (b : Char) (hb : isBlank b) {post s : List Char} {st1 : LexSt} {acc1 : List Token}
    (h : LexReach post LexSt.init s [] st1 acc1) :
    ∃ u, s = u ++ post ∧
      lexFrom LexSt.init s = preOut acc1 (lexAll st1 post []) ∧
      lexFrom LexSt.init (u ++ b :: post) = preOut acc1 (shiftOut 1 (lexAll st1 post [])) := by
  simpa only [lshiftOut_zero] using lex_insert h (passes_blank hb st1 post)

theorem lex_extra_linefeed {post s : List Char} {st1 : LexSt} {acc1 : List Token}
    (h : LexReach post LexSt.init s [] st1 acc1) (hd : st1.depth ≠ 0) :
    ∃ u, s = u ++ post ∧
      lexFrom LexSt.init s = preOut acc1 (lexAll st1 post []) ∧
      lexFrom LexSt.init (u ++ '\n' :: post) = preOut acc1 (lshiftOut 1 (shiftOut 1 (lexAll st1 post []))) :=
  lex_insert h (passes_lf hd post)

theorem lex_extra_crlf {post s : List Char} {st1 : LexSt} {acc1 : List Token}
    (h : LexReach post LexSt.init s [] st1 acc1) (hd : st1.depth ≠ 0) :
    ∃ u, s = u ++ post ∧
      lexFrom LexSt.init s = preOut acc1 (lexAll st1 post []) ∧
      lexFrom LexSt.init (u ++ '\r' :: '\n' :: post) = preOut acc1 (lshiftOut 1 (shiftOut 2 (lexAll st1 post []))) :=
  lex_insert h (passes_crlf hd post)

open Proto in
theorem same_program_of_shift2 (dp dl : Nat) {s s2 post : List Char} {st1 : LexSt} {acc1 : List Token}
    (h : LexReach post LexSt.init s [] st1 acc1)
    (hold : lexFrom LexSt.init s = preOut acc1 (lexAll st1 post []))
    (hnew : lexFrom LexSt.init s2 = preOut acc1 (lshiftOut dl (shiftOut dp (lexAll st1 post [])))) (tree : Op) :
    parseText LexSt.init s2 = .ok tree ↔ parseText LexSt.init s = .ok tree := by
  rw [parseText_ok_iff, parseText_ok_iff, hold, hnew]
  cases hx : lexAll st1 post [] with
  | error p => simp [preOut, shiftOut, lshiftOut]
  | ok p =>
    obtain ⟨ts2, stf⟩ := p
    -- shifting offsets and line stamps keeps kinds and values
    have key : parseTokens (acc1.reverse ++ (ts2.map (Token.shift dp)).map (Token.lshift dl)) = .ok tree ↔
        parseTokens (acc1.reverse ++ ts2) = .ok tree :=
      parse_reads_kv (by simp only [List.map_append, List.map_map]; rfl) tree
    simpa [preOut, shiftOut, lshiftOut] using key

open Proto in
theorem insert_same_program {b : Char} {tail : List Char} {dp dl : Nat} {u post : List Char} {st1 : LexSt}
    {acc1 : List Token} (h : LexReach post LexSt.init (u ++ post) [] st1 acc1) (hp : Passes b tail dp dl st1 post) (tree : Op) :
    parseText LexSt.init (u ++ b :: tail) = .ok tree ↔ parseText LexSt.init (u ++ post) = .ok tree := by
  obtain ⟨u', es, hold, hnew⟩ := lex_insert h hp
  obtain rfl : u = u' := List.append_cancel_right es
  exact same_program_of_shift2 dp dl h hold hnew tree

end Sq
