/-
  The numeric primitives on values, read backwards: when one of them answers, which decimal
  operation produced the answer.
-/
import Sq.Prim
namespace Sq
open Sq.Dec

theorem liftDec_ok {r : Except DecSignal Dec} {v : Val} (h : liftDec r = .ok v) :
    ∃ d, r = .ok d ∧ v = .dec d false := by
  cases r with
  | ok d => exact ⟨d, rfl, (Except.ok.inj h).symm⟩
  | error e => cases h

theorem liftDec_all {P : Dec → Prop} {r : Except DecSignal Dec} {v : Val} (hr : ∀ d, r = .ok d → P d)
    (h : liftDec r = .ok v) : ∃ d, v = .dec d false ∧ P d := by
  obtain ⟨d, hd, rfl⟩ := liftDec_ok h
  exact ⟨d, rfl, hr d hd⟩

theorem pySub_ok {a b v : Val} (h : pySub a b = .ok v) :
    (∃ x y, toInt? a = some x ∧ toInt? b = some y ∧ v = .int (x - y)) ∨
    ∃ x y, toDec? a = some x ∧ toDec? b = some y ∧ liftDec (Dec.sub x y) = .ok v := by
  unfold pySub at h
  split at h
  · next x y hx hy => exact .inl ⟨x, y, hx, hy, (Except.ok.inj h).symm⟩
  · split at h
    · next x y hx hy => exact .inr ⟨x, y, hx, hy, h⟩
    · split at h <;> cases h

/-- int / int is a float: not modelled -/
theorem pyDiv_ok {a b v : Val} (h : pyDiv a b = .ok v) :
    ∃ x y, toDec? a = some x ∧ toDec? b = some y ∧ liftDec (Dec.div x y) = .ok v := by
  unfold pyDiv at h
  split at h
  · split at h <;> cases h
  · split at h
    · next x y hx hy => exact ⟨x, y, hx, hy, h⟩
    · split at h <;> cases h

theorem toInt_plain {y : Dec} (he : y.exp = 0) (hn : y.neg = false) : y.toInt = y.coeff := by
  simp [Dec.toInt, he, hn]

theorem decPow_ok {x y : Dec} {v : Val} (h : decPow x y = .ok v) :
    y.exp = 0 ∧ y.neg = false ∧
    ((x.coeff = 0 ∧ y.coeff ≠ 0 ∧ v = .dec { neg := x.neg && (y.coeff : Int) % 2 = 1, coeff := 0, exp := 0 } false) ∨
     (x.coeff ≠ 0 ∧
      liftDec (fix { neg := x.neg && (y.coeff : Int) % 2 = 1, coeff := x.coeff ^ y.coeff, exp := x.exp * y.coeff }) = .ok v)) := by
  have plain : ¬ (y.exp ≠ 0 ∨ y.neg = true) → y.exp = 0 ∧ y.neg = false ∧ y.toInt = y.coeff := fun hn =>
    have he := Decidable.of_not_not fun e => hn (.inl e)
    have hs := Bool.eq_false_iff.mpr fun e => hn (.inr e)
    ⟨he, hs, toInt_plain he hs⟩
  -- `split at h` re-simplifies the whole remaining cascade at every level; rewriting one guard at a time does not
  unfold decPow at h
  by_cases hint : ¬ y.isIntegral
  · rw [if_pos hint] at h; cases h
  rw [if_neg hint] at h
  dsimp only at h
  by_cases hneg : y.toInt < 0
  · rw [if_pos hneg] at h; cases h
  by_cases hbig : y.toInt > 200
  · rw [if_neg hneg, if_pos hbig] at h; cases h
  by_cases h00 : x.coeff = 0 ∧ y.toInt = 0
  · rw [if_neg hneg, if_neg hbig, if_pos h00] at h; cases h
  rw [if_neg hneg, if_neg hbig, if_neg h00] at h
  by_cases hz : x.coeff = 0
  · rw [if_pos hz] at h
    by_cases hform : y.exp ≠ 0 ∨ y.neg = true
    · rw [if_pos hform] at h; cases h
    obtain ⟨he, hs, hi⟩ := plain hform
    rw [if_neg hform, hi] at h
    exact ⟨he, hs, .inl ⟨hz, fun e => h00 ⟨hz, by rw [hi, e]; rfl⟩, (Except.ok.inj h).symm⟩⟩
  · rw [if_neg hz] at h
    by_cases hlong : ndigits (x.coeff ^ y.toInt.toNat) > prec
    · rw [if_pos hlong] at h; cases h
    by_cases hform : y.exp ≠ 0 ∨ y.neg = true
    · rw [if_neg hlong, if_pos hform] at h; cases h
    obtain ⟨he, hs, hi⟩ := plain hform
    rw [if_neg hlong, if_neg hform, hi, Int.toNat_natCast] at h
    exact ⟨he, hs, .inr ⟨hz, h⟩⟩

end Sq
