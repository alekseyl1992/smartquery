/-
  The arithmetic of the model stated against ℚ.  `toRat d` is the rational a decimal denotes;
  every "within half a unit of the last place" is the cast (`half_of_nearest`, `at_place`) of a statement about naturals.
  This is the only file of the library that imports Mathlib modules; the model (lean/Sq) stays import-free.
-/
import SqLemmas.DivLemmas
import Mathlib.Tactic.FieldSimp
import Mathlib.Tactic.Ring
import Mathlib.Tactic.Linarith
import Mathlib.Tactic.Positivity
import Mathlib.Tactic.NormNum
import Mathlib.Tactic.Push
import Mathlib.Algebra.Order.Field.Rat
import Mathlib.Algebra.Order.Field.Power
namespace Sq.Dec

def sgn (neg : Bool) : ℚ := if neg then -1 else 1

def toRat (d : Dec) : ℚ := sgn d.neg * (d.coeff : ℚ) * (10 : ℚ) ^ d.exp

theorem sgn_abs (n : Bool) : |sgn n| = 1 := by cases n <;> simp [sgn]
theorem sgn_xor (a b : Bool) : sgn (a != b) = sgn a * sgn b := by cases a <;> cases b <;> simp [sgn]
theorem sgn_not (a : Bool) : sgn (!a) = - sgn a := by cases a <;> simp [sgn]
theorem sgn_cast (neg : Bool) : ((if neg then -1 else 1 : Int) : ℚ) = sgn neg := by cases neg <;> simp [sgn]

theorem ten_ne : (10 : ℚ) ≠ 0 := by norm_num
theorem zpow10_pos (e : Int) : (0 : ℚ) < 10 ^ e := by positivity

theorem zpow_add_nat (e : Int) (j : Nat) : (10 : ℚ) ^ (e + j) = 10 ^ j * 10 ^ e := by
  rw [zpow_add₀ ten_ne, zpow_natCast, mul_comm]

theorem toRat_zero (d : Dec) (h : d.coeff = 0) : d.toRat = 0 := by simp [toRat, h]

theorem mulExact_toRat (a b : Dec) : (mulExact a b).toRat = a.toRat * b.toRat := by
  simp only [toRat, mulExact, sgn_xor, Nat.cast_mul, zpow_add₀ ten_ne]
  ring

theorem negate_toRat (a : Dec) : (negate a).toRat = - a.toRat := by
  simp only [toRat, negate, sgn_not]; ring

/-- the left side is the term `addExact` and `cmp` compute for each operand (`SqProps.C08.scaled`, spelled out) -/
theorem scaled_toRat (neg : Bool) (c : Nat) (x e : Int) (h : e ≤ x) :
    (((if neg then -1 else 1) * ((c * 10 ^ (x - e).toNat : Nat) : Int) : Int) : ℚ) * 10 ^ e = sgn neg * c * 10 ^ x := by
  have hx : (10 : ℚ) ^ x = 10 ^ (x - e).toNat * 10 ^ e := by
    rw [← zpow_natCast, ← zpow_add₀ ten_ne]; congr 1; omega
  rw [hx, Int.cast_mul, sgn_cast]
  push_cast
  ring

/-- over ℤ this is `addExact_int`; `scaled_toRat` casts each of the three signed coefficients -/
theorem addExact_toRat (a b : Dec) : (addExact a b).toRat = a.toRat + b.toRat := by
  obtain ⟨hs, he⟩ := addExact_int a b
  unfold toRat
  rw [← scaled_toRat a.neg a.coeff a.exp _ (min_le_left a.exp b.exp),
    ← scaled_toRat b.neg b.coeff b.exp _ (min_le_right a.exp b.exp), ← add_mul, ← Int.cast_add, ← hs, he, Int.cast_mul, sgn_cast]
  rfl

theorem half_of_nearest (n m d : Nat) (hd : 0 < d) (h : Nearest n m d) :
    |(m : ℚ) - (n : ℚ) / d| ≤ 1 / 2 := by
  have hdq : (0 : ℚ) < d := by exact_mod_cast hd
  have q1 : (2 : ℚ) * n ≤ 2 * (m * d) + d := by exact_mod_cast h.1
  have q2 : (2 : ℚ) * (m * d) ≤ 2 * n + d := by exact_mod_cast h.2
  rw [abs_le]
  constructor
  · rw [neg_le_sub_iff_le_add, div_le_iff₀ hdq]; linarith only [q1]
  · rw [sub_le_iff_le_add, ← sub_le_iff_le_add', le_div_iff₀ hdq]; linarith only [q2]

theorem at_place (sg : Bool) (m : Nat) (x : ℚ) (E : Int) (k : Nat) (h : |(m : ℚ) - x / 10 ^ k| ≤ 1 / 2) :
    |sgn sg * m * 10 ^ (E + k) - sgn sg * x * 10 ^ E| ≤ (1 / 2) * 10 ^ (E + k) := by
  have e : sgn sg * m * 10 ^ (E + k) - sgn sg * x * 10 ^ E = sgn sg * (((m : ℚ) - x / 10 ^ k) * 10 ^ (E + k)) := by
    rw [zpow_add_nat]; field_simp
  rw [e, abs_mul, sgn_abs, one_mul, abs_mul, abs_of_pos (zpow10_pos _)]
  exact mul_le_mul_of_nonneg_right h (le_of_lt (zpow10_pos _))

theorem fix_half_ulp (d r : Dec) (h : fix d = .ok r) : |r.toRat - d.toRat| ≤ (1 / 2) * 10 ^ r.exp := by
  by_cases hnz : d.coeff = 0
  · have hr : r.coeff = 0 := by rw [fix_zero d hnz] at h; cases h; exact hnz
    rw [toRat_zero d hnz, toRat_zero r hr, sub_self, abs_zero]; positivity
  · obtain ⟨hs, j, he, hb, _⟩ := fix_nearest d r h hnz
    unfold toRat
    rw [hs, he]
    exact at_place _ _ _ _ j (by simpa using half_of_nearest _ _ _ (Nat.pow_pos (by decide)) hb)

theorem toRat_div (a b : Dec) (hb : b.coeff ≠ 0) :
    a.toRat / b.toRat = sgn (a.neg != b.neg) * ((divNum a b : ℚ) / (divDen a b : ℚ)) * (10 : ℚ) ^ (divExp a b) := by
  -- `hb` is not used: for `b.coeff = 0` both sides are `0` (in ℚ, `x / 0 = 0`)
  have hss : sgn a.neg / sgn b.neg = sgn a.neg * sgn b.neg := by cases a.neg <;> cases b.neg <;> simp [sgn]
  -- the two powers of ten that scale numerator and denominator make up `10^divShift` between them
  have hsh : (10 : ℚ) ^ (divShift a b).toNat / 10 ^ (-divShift a b).toNat = 10 ^ divShift a b := by
    rw [← zpow_natCast, ← zpow_natCast, ← zpow_sub₀ ten_ne]; congr 1; omega
  have hexp : (10 : ℚ) ^ a.exp / 10 ^ b.exp = 10 ^ divShift a b * 10 ^ divExp a b := by
    rw [← zpow_sub₀ ten_ne, ← zpow_add₀ ten_ne]; congr 1; unfold divExp; omega
  unfold toRat
  rw [sgn_xor, ← hss, divNum_eq, divDen_eq]
  push_cast
  rw [mul_div_mul_comm, mul_div_mul_comm, mul_div_mul_comm, hsh, hexp]
  ring

theorem stripTo_value (fuel c : Nat) (e ideal : Int) :
    ((stripTo fuel c e ideal).1 : ℚ) * 10 ^ (stripTo fuel c e ideal).2 = (c : ℚ) * 10 ^ e := by
  induction fuel generalizing c e with
  | zero => rfl
  | succ n ih =>
    unfold stripTo
    split
    · rename_i h
      rw [ih]
      have hc : c = 10 * (c / 10) := by omega
      have : (c : ℚ) = 10 * ((c / 10 : Nat) : ℚ) := by exact_mod_cast hc
      rw [this, zpow_add₀ ten_ne]
      simp only [zpow_one]; ring
    · rfl

theorem divPre_exact_toRat (a b : Dec) (hb : b.coeff ≠ 0) (hr : a.coeff = 0 ∨ divNum a b % divDen a b = 0) :
    (divPre a b).toRat = a.toRat / b.toRat := by
  by_cases ha : a.coeff = 0
  · unfold divPre
    simp only [ha, if_true]
    simp [toRat, ha]
  · have hr : divNum a b % divDen a b = 0 := hr.resolve_left ha
    rw [toRat_div a b hb]
    have hden := divDen_pos a b hb
    have hq : ((divNum a b : ℚ) / (divDen a b : ℚ)) = ((divNum a b / divDen a b : Nat) : ℚ) := by
      have hd : divNum a b = divNum a b / divDen a b * divDen a b := by
        have := Nat.div_add_mod (divNum a b) (divDen a b); rw [Nat.mul_comm]; omega
      rw [div_eq_iff (by exact_mod_cast Nat.ne_of_gt hden)]
      exact_mod_cast hd
    rw [hq, divPre_eq a b ha, if_neg (not_not.mpr hr)]
    unfold toRat
    rw [mul_assoc, mul_assoc, stripTo_value]

theorem div_half_ulp (a b r : Dec) (h : Dec.div a b = .ok r) : |r.toRat - a.toRat / b.toRat| ≤ (1 / 2) * 10 ^ r.exp := by
  obtain ⟨hb, hfix⟩ := div_ok a b r h
  by_cases hex : a.coeff = 0 ∨ divNum a b % divDen a b = 0
  · rw [← divPre_exact_toRat a b hb hex]
    exact fix_half_ulp _ r hfix
  · obtain ⟨hs, j, he, hn⟩ := div_nearest a b r (fun h0 => hex (.inl h0)) hb (fun h0 => hex (.inr h0)) h
    have hpos : 0 < divDen a b * 10 ^ j := Nat.mul_pos (divDen_pos a b hb) (Nat.pow_pos (by decide))
    rw [toRat_div a b hb]
    unfold toRat
    rw [hs, he]
    exact at_place _ _ _ _ j (by simpa [div_div] using half_of_nearest _ _ _ hpos hn)

theorem rescale_half_ulp (a : Dec) (e : Int) :
    |(rescale a e .halfEven).toRat - a.toRat| ≤ (1 / 2) * 10 ^ e ∧ (e ≤ a.exp → (rescale a e .halfEven).toRat = a.toRat) := by
  obtain ⟨hs, he, hc⟩ := rescale_cases a e
  generalize rescale a e .halfEven = r at hs he hc
  have hsame : r.toRat = a.toRat → |r.toRat - a.toRat| ≤ (1 / 2) * 10 ^ e := fun heq => by
    rw [heq, sub_self, abs_zero]; positivity
  rcases hc with ⟨hz, hrz⟩ | ⟨_, hge, hco⟩ | ⟨_, hlt, hco⟩
  · have heq : r.toRat = a.toRat := by rw [toRat_zero a hz, toRat_zero r hrz]
    exact ⟨hsame heq, fun _ => heq⟩
  · have hexp : a.exp = e + ((a.exp - e).toNat : Nat) := by omega
    have heq : r.toRat = a.toRat := by
      unfold toRat
      rw [hs, he, hco]
      conv_rhs => rw [hexp, zpow_add_nat]
      push_cast; ring
    exact ⟨hsame heq, fun _ => heq⟩
  · have hexp : e = a.exp + ((e - a.exp).toNat : Nat) := by omega
    refine ⟨?_, fun hle => absurd hle (by omega)⟩
    have hn := (roundRat_nearest a.coeff (10 ^ (e - a.exp).toNat) (Nat.pow_pos (by decide))).1
    rw [← roundDiv_halfEven a.neg, ← hco] at hn
    unfold toRat
    rw [hs, he, hexp]
    exact at_place _ _ _ _ _ (by simpa using half_of_nearest _ _ _ (Nat.pow_pos (by decide)) hn)

theorem toInt_exp0 (d : Dec) (h : d.exp = 0) : ((toInt d : Int) : ℚ) = d.toRat := by
  unfold toInt toRat
  simp only [h, ge_iff_le, le_refl, if_true, Int.toNat_zero, pow_zero, mul_one, zpow_zero]
  cases d.neg <;> simp [sgn]

theorem sgn_pow (b : Bool) (N : Nat) : sgn (b && decide ((N : Int) % 2 = 1)) = (sgn b) ^ N := by
  cases b
  · simp [sgn]
  · rcases Nat.even_or_odd N with he | ho
    · have : ¬ ((N : Int) % 2 = 1) := by
        obtain ⟨k, hk⟩ := he; omega
      simp [sgn, this, he.neg_one_pow]
    · have : ((N : Int) % 2 = 1) := by
        obtain ⟨k, hk⟩ := ho; omega
      simp [sgn, this, ho.neg_one_pow]

theorem powExact_toRat (x : Dec) (N : Nat) :
    toRat { neg := x.neg && decide ((N : Int) % 2 = 1), coeff := x.coeff ^ N, exp := x.exp * (N : Int) } = x.toRat ^ N := by
  unfold toRat
  simp only []
  rw [sgn_pow, mul_pow, mul_pow, zpow_mul, zpow_natCast]
  push_cast
  ring

end Sq.Dec
