/-
  The configuration invariant instantiated for C18: every name the evaluator looks up during a run is mentioned by the
  program (or by a closure / ast_names tree the host supplied).
-/
import SqLemmas.InvMachine
import SqLemmas.ParseNames
namespace Sq.Inv

/-- the name the next step looks up in the scopes (host names mapping, then builtins), if any: a variable node, a
    call node (after its last argument), a compound assignment (after its right-hand side).  These are the only places
    where the machine calls `lookupName` (`enter (.name n)`, `doCall`, `resume (.shortK n …)`). -/
def lookupOf (c : Core) : Option Name :=
  match c.ctl, c.k with
  | .ev (.name n) _, _ => some n
  | .ev (.call n []) _, _ => some n
  | .ret _, .argsK n _ [] _ :: _ => some n
  | .ret _, .shortK n _ _ :: _ => some n
  | _, _ => none

def MentionsIn (S : Name → Prop) (op : Op) : Prop := ∀ x, Mentions op x → S x

theorem opsOK_names (S : Name → Prop) :
    OpsOK (fun _ body _ => MentionsIn S body) (fun _ => True) (MentionsIn S) S True where
  builtin := fun _ _ _ => trivial
  name := fun n h => h n .name
  call := fun n _ h => ⟨h n .callee, fun _ ha x hx => h x (.arg ha hx)⟩
  short := fun n _ _ h => ⟨trivial, h n .shortTarget, fun x hx => h x (.shortVal hx)⟩
  assign := fun _ _ h x hx => h x (.assigned hx)
  lambda := fun _ _ _ h x hx => h x (.body hx)
  body := fun _ _ _ h => h
  code := fun _ h _ hl x hx => h x (.line hl hx)
  bin := fun _ _ _ h => ⟨fun x hx => h x (.binL hx), fun x hx => h x (.binR hx)⟩
  unary := fun _ _ h x hx => h x (.unary hx)
  ifx := fun _ _ _ h => ⟨fun x hx => h x (.ifC hx), fun x hx => h x (.ifA hx), fun x hx => h x (.ifB hx)⟩
  slice := fun _ _ _ h => ⟨fun x hx => h x (.sliceA hx), fun x hx => h x (.sliceB hx), fun x hx => h x (.sliceC hx)⟩
  dict := fun _ h _ ha x hx => h x (.entry ha hx)

/-- closure bodies, pending nodes and pending call / compound-assignment names mention only names in `S` -/
abbrev NamesInv (S : Name → Prop) (c : Core) : Prop :=
  CoreNPg (fun _ body _ => MentionsIn S body) (fun _ => True) (fun _ => True) (fun _ => True) (MentionsIn S) S True c

theorem lookup_in (S : Name → Prop) {c : Core} (h : NamesInv S c) {n : Name} (hl : lookupOf c = some n) : S n := by
  obtain ⟨ctl, k, w⟩ := c
  simp only [lookupOf] at hl
  -- the four arms of `lookupOf`: the node in control mentions its name, the frame on top carries it with `Pn := S`
  split at hl <;> cases hl
  · exact h.ctl n .name
  · exact h.ctl n .callee
  · exact (h.frames _ (List.mem_cons_self ..)).2.1
  · exact (h.frames _ (List.mem_cons_self ..)).2

theorem run_lookups_in (S : Name → Prop) (c : Cfg) (h0 : NamesInv S c.core) (i : Nat) (n : Name)
    (hl : lookupOf (run i c).core = some n) : S n :=
  lookup_in S (run_np (opsOK_names S) c h0 i) hl

theorem init_names_inv (S : Name → Prop) (w : World) (bs : List Nat) (namesAddr budget : Nat) (tree : Op)
    (astNames : List (Name × Op))
    (hw : WorldNPg (fun _ body _ => MentionsIn S body) (fun _ => True) (fun _ => True) (fun _ => True) w)
    (ht : MentionsIn S tree) (ha : ∀ p, p ∈ astNames → MentionsIn S p.2) :
    NamesInv S (initCfg w bs namesAddr budget tree astNames).core :=
  init_inv w bs namesAddr budget tree astNames hw ht ha

end Sq.Inv
