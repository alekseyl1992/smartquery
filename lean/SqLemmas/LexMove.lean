/-
  The lexer reads its offset and its line counter only to stamp tokens and error positions:
  started `dp` offsets and `dl` lines further on, it gives the same results with the stamps moved by as much.
-/
import SqLemmas.LexLemmas
namespace Sq

def Token.shift (d : Nat) (t : Token) : Token := { t with pos := t.pos + d }

def LexErr.shift (d : Nat) : LexErr → LexErr
  | .illegal c p => .illegal c (p + d)
  | .unmodelled c => .unmodelled c

def LexRes.shift (d : Nat) : LexRes → LexRes
  | .tok t st rest => .tok (t.shift d) (st.shift d) rest
  | .skip st rest => .skip (st.shift d) rest
  | .eof => .eof
  | .err e => .err (e.shift d)

def Token.lshift (d : Nat) (t : Token) : Token := { t with line := t.line + d }

def LexErr.lshift (_d : Nat) : LexErr → LexErr
  | e => e

def LexRes.lshift (d : Nat) : LexRes → LexRes
  | .tok t st rest => .tok (t.lshift d) (st.lshift d) rest
  | .skip st rest => .skip (st.lshift d) rest
  | .eof => .eof
  | .err e => .err (e.lshift d)

theorem LexRes.lshift_zero (r : LexRes) : r.lshift 0 = r := by cases r <;> rfl

/-! Every result of a recogniser is `mk`, `mkNL`, a skip or an error, below tests that do not read `pos` and `line`: moving
    the state commutes with each leaf and with `if … then … else`, so no case is split. -/

theorem mk_move (dp dl : Nat) (ty : Tk) (v : List Char) (st : LexSt) (n : Nat) (dd : Int) (rest : List Char) :
    mk ty v ((st.shift dp).lshift dl) n dd rest = ((mk ty v st n dd rest).shift dp).lshift dl := by
  simp [mk, LexRes.shift, LexRes.lshift, LexSt.shift, LexSt.lshift, Token.shift, Token.lshift, Nat.add_right_comm]

theorem mkNL_move (dp dl : Nat) (v : List Char) (st : LexSt) (n : Nat) (rest : List Char) :
    mkNL v ((st.shift dp).lshift dl) n rest = ((mkNL v st n rest).shift dp).lshift dl := by
  simp [mkNL, LexRes.shift, LexRes.lshift, LexSt.shift, LexSt.lshift, Token.shift, Token.lshift, Nat.add_right_comm]

theorem skip_move (dp dl : Nat) (st : LexSt) (n : Nat) (rest : List Char) :
    LexRes.skip { (st.shift dp).lshift dl with pos := ((st.shift dp).lshift dl).pos + n } rest =
      ((LexRes.skip { st with pos := st.pos + n } rest).shift dp).lshift dl := by
  simp [LexRes.shift, LexRes.lshift, LexSt.shift, LexSt.lshift, Nat.add_right_comm]

theorem illegal_move (dp dl : Nat) (st : LexSt) (c : Char) :
    LexRes.err (.illegal c ((st.shift dp).lshift dl).pos) = ((LexRes.err (.illegal c st.pos)).shift dp).lshift dl := rfl

theorem lexPunct_move (dp dl : Nat) (st : LexSt) (c : Char) (cs : List Char) :
    lexPunct ((st.shift dp).lshift dl) c cs = ((lexPunct st c cs).shift dp).lshift dl := by
  unfold lexPunct
  cases pctBody cs <;> cases matchSimple (c :: cs) <;>
    simp only [mk_move, Nat.add_assoc, skip_move, illegal_move, apply_ite (LexRes.shift dp), apply_ite (LexRes.lshift dl)]

theorem lexNumber_move (dp dl : Nat) (st : LexSt) (c : Char) (cs : List Char) :
    lexNumber ((st.shift dp).lshift dl) c cs = ((lexNumber st c cs).shift dp).lshift dl := by
  unfold lexNumber
  split
  · rfl
  · split
    · split
      · rfl
      · split
        · rfl
        · exact mk_move ..
      · exact mk_move ..
    · exact mk_move ..

theorem lexWord_move (dp dl : Nat) (st : LexSt) (c : Char) (cs : List Char) :
    lexWord ((st.shift dp).lshift dl) c cs = ((lexWord st c cs).shift dp).lshift dl := by
  unfold lexWord
  split
  · exact mk_move ..
  · split
    · rfl
    · exact lexNumber_move ..
    · split
      · rfl
      · exact mk_move ..
    · exact lexPunct_move ..

theorem lexBracket_move (dp dl : Nat) (st : LexSt) (c : Char) (cs : List Char) :
    lexBracket ((st.shift dp).lshift dl) c cs = ((lexBracket st c cs).shift dp).lshift dl := by
  simp only [lexBracket, mk_move, lexWord_move, apply_ite (LexRes.shift dp), apply_ite (LexRes.lshift dl)]

theorem lexStep_move (dp dl : Nat) (st : LexSt) (s : List Char) :
    lexStep ((st.shift dp).lshift dl) s = ((lexStep st s).shift dp).lshift dl := by
  cases s with
  | nil => rfl
  | cons c cs =>
    have hdep : ((st.shift dp).lshift dl).depth = st.depth := rfl
    simp only [lexStep, hdep, mk_move, mkNL_move, lexBracket_move, apply_ite (LexRes.shift dp),
      apply_ite (LexRes.lshift dl)]
    simp only [LexRes.shift, LexRes.lshift, LexSt.shift, LexSt.lshift, Nat.add_right_comm]

def preOut (acc : List Token) : LexOut → LexOut
  | .ok (ts, st) => .ok (acc.reverse ++ ts, st)
  | .error (e, ts) => .error (e, acc.reverse ++ ts)

theorem lexAllAux_acc : ∀ (fuel : Nat) (st : LexSt) (s : List Char) (acc : List Token),
    lexAllAux fuel st s acc = preOut acc (lexAllAux fuel st s []) := by
  intro fuel
  induction fuel with
  | zero => intro st s acc; simp [lexAllAux, preOut]
  | succ fuel ih =>
    intro st s acc
    simp only [lexAllAux]
    cases hr : lexStep st s with
    | eof => simp [preOut]
    | err e => simp [preOut]
    | skip st' rest => exact ih st' rest acc
    | tok t st' rest =>
      simp only []
      rw [ih st' rest (t :: acc), ih st' rest [t]]
      cases lexAllAux fuel st' rest [] with
      | ok p => obtain ⟨ts, st1⟩ := p; simp [preOut]
      | error p => obtain ⟨e, ts⟩ := p; simp [preOut]

def shiftOut (d : Nat) : LexOut → LexOut
  | .ok (ts, st) => .ok (ts.map (Token.shift d), st.shift d)
  | .error (e, ts) => .error (e.shift d, ts.map (Token.shift d))

def lshiftOut (d : Nat) : LexOut → LexOut
  | .ok (ts, st) => .ok (ts.map (Token.lshift d), st.lshift d)
  | .error (e, ts) => .error (e.lshift d, ts.map (Token.lshift d))

theorem lshiftOut_zero (x : LexOut) : lshiftOut 0 x = x := by
  have hid : Token.lshift 0 = id := rfl
  cases x with
  | ok p => simp [lshiftOut, hid, LexSt.lshift]
  | error p => simp [lshiftOut, hid, LexErr.lshift]

theorem lexAllAux_move (dp dl : Nat) : ∀ (fuel : Nat) (st : LexSt) (s : List Char),
    lexAllAux fuel ((st.shift dp).lshift dl) s [] = lshiftOut dl (shiftOut dp (lexAllAux fuel st s [])) := by
  intro fuel
  induction fuel with
  | zero => intro st s; simp [lexAllAux, shiftOut, lshiftOut]
  | succ fuel ih =>
    intro st s
    simp only [lexAllAux]
    rw [lexStep_move]
    cases hr : lexStep st s with
    | eof => simp [LexRes.shift, LexRes.lshift, shiftOut, lshiftOut]
    | err e => simp [LexRes.shift, LexRes.lshift, shiftOut, lshiftOut]
    | skip st' rest => simp only [LexRes.shift, LexRes.lshift]; exact ih st' rest
    | tok t st' rest =>
      simp only [LexRes.shift, LexRes.lshift]
      rw [lexAllAux_acc fuel _ rest [_], lexAllAux_acc fuel st' rest [t], ih st' rest]
      cases lexAllAux fuel st' rest [] with
      | ok p => obtain ⟨ts, st1⟩ := p; simp [preOut, shiftOut, lshiftOut]
      | error p => obtain ⟨e, ts⟩ := p; simp [preOut, shiftOut, lshiftOut]

end Sq
