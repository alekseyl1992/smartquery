/-
  Everything the levelled derivation relation derives (hence, by `sound`, everything the parser accepts: C06) is a sentence of the
  published context-free grammar: the 77 productions of `Sq.Spec.productions`, which `SqTie.grammar_tie` identifies with the
  productions PLY builds from /repo's rules.py on every run.  A production is cited by its position in that list
  (`Der.prod 14 rfl …`): the `rfl` looks it up, so a wrong index does not elaborate.
-/
import SqLemmas.ParseInduct
import Sq.Spec
namespace Sq

def cfg : List (String × List String) := Spec.productions.map (fun p => (p.1, p.2.1))

mutual
/-- `Der A w`: the nonterminal `A` derives the terminal string `w` (token types) in the published grammar -/
inductive Der : String → List Tk → Prop
  | rule {lhs rhs w} : (lhs, rhs) ∈ cfg → DerSeq rhs w → Der lhs w
/-- a right-hand side derives `w`: terminals match their own type name, nonterminals derive a factor -/
inductive DerSeq : List String → List Tk → Prop
  | nil : DerSeq [] []
  | term {tk rest w} : DerSeq rest w → DerSeq (tk.name :: rest) (tk :: w)
  | nt {x rest w1 w2} : Der x w1 → DerSeq rest w2 → DerSeq (x :: rest) (w1 ++ w2)
end

abbrev tys (ts : List Token) : List Tk := ts.map (·.ty)

theorem tys_append (a b : List Token) : tys (a ++ b) = tys a ++ tys b := List.map_append
theorem tys_cons (t : Token) (r : List Token) : tys (t :: r) = t.ty :: tys r := rfl

theorem DerSeq.t1 {tk : Tk} : DerSeq [tk.name] [tk] := .term .nil

theorem DerSeq.term' {s : String} {tk : Tk} {rest : List String} {w : List Tk} (e : s = tk.name) (h : DerSeq rest w) :
    DerSeq (s :: rest) (tk :: w) := e ▸ .term h

theorem DerSeq.tok {k tk : Tk} {rest : List String} {w : List Tk} (e : tk = k) (h : DerSeq rest w) :
    DerSeq (k.name :: rest) (tk :: w) := e ▸ .term h

theorem DerSeq.t (tk : Tk) {rest : List String} {w : List Tk} (h : DerSeq rest w) : DerSeq (tk.name :: rest) (tk :: w) :=
  .term h

/-- `.nt h .nil` has the word `w ++ []` -/
theorem DerSeq.last {x : String} {w : List Tk} (h : Der x w) : DerSeq [x] w := by
  simpa using DerSeq.nt h .nil

/-- `cfg[i]? = some _` by `rfl` is one lookup, where `_ ∈ cfg` by `decide` compares with every production before it -/
theorem Der.prod (i : Nat) {lhs : String} {rhs : List String} {w : List Tk} (h : cfg[i]? = some (lhs, rhs))
    (hs : DerSeq rhs w) : Der lhs w := .rule (List.mem_of_getElem? h) hs

local notation "E" => Der "expression"

def IdxForm (w : List Tk) : Prop := ∃ wc wk, w = wc ++ Tk.LBRACKET :: wk ++ [Tk.RBRACKET] ∧ E wc ∧ E wk

/-- previous items of a left-recursive list, followed by the next one -/
def comb (sep : Tk) : Option (List Tk) → List Tk → List Tk
  | none, w => w
  | some w0, w => w0 ++ sep :: w

theorem g_atom {t : Token} {e : Op} (h : atomOf t = some e) : E [t.ty] := by
  rcases atomOf_inv h with ⟨ht, _⟩ | ⟨ht, _⟩ | ⟨ht, _⟩ | ⟨ht, _⟩ | ⟨ht, _⟩ <;> rw [ht]
  · exact .prod 14 rfl (.t .NUMBER .nil)
  · exact .prod 15 rfl (.t .STRING .nil)
  · exact .prod 68 rfl (.t .TRUE .nil)
  · exact .prod 69 rfl (.t .FALSE .nil)
  · exact .prod 70 rfl (.t .NONE .nil)

/-- one lemma for the 14 binary operators: their productions stand from index 31 on, in the order of `BinK` -/
theorem g_bin {o : Tk} {k : BinK} (hk : binKind o = some k) {w1 w2 : List Tk} (h1 : E w1) (h2 : E w2) :
    E (w1 ++ o :: w2) := by
  have hi : cfg[31 + k.ctorIdx]? = some ("expression", ["expression", o.name, "expression"]) := by
    unfold binKind at hk
    split at hk <;> cases hk <;> rfl
  exact .prod _ hi (.nt h1 (.term (.last h2)))

theorem g_arg1 {w : List Tk} (h : E w) : Der "arglist" w := .prod 74 rfl (.last h)

theorem g_argn {w0 w : List Tk} (h0 : Der "arglist" w0) (h : E w) : Der "arglist" (w0 ++ .COMMA :: w) :=
  .prod 73 rfl (.nt h0 (.t .COMMA (.last h)))

theorem g_item {p : Option (List Tk)} (hp : ∀ w0, p = some w0 → Der "dict_item" w0) {wk wv : List Tk}
    (hk : E wk) (hv : E wv) : Der "dict_item" (comb Tk.COMMA p (wk ++ .COLON :: wv)) := by
  cases p with
  | none => exact .prod 30 rfl (.nt hk (.t .COLON (.last hv)))
  | some w0 => exact .prod 29 rfl (.nt (hp w0 rfl) (.t .COMMA (.nt hk (.t .COLON (.last hv)))))

theorem g_code {p : Option (List Tk)} (hp : ∀ w0, p = some w0 → Der "code" w0) {w : List Tk} (h : Der "statement" w) :
    Der "code" (comb Tk.NEWLINE p w) := by
  have hl : Der "line" w := .prod 3 rfl (.last h)
  cases p with
  | none => exact .prod 1 rfl (.last hl)
  | some w0 => exact .prod 2 rfl (.nt (hp w0 rfl) (.t .NEWLINE (.last hl)))

/-- one suffix `sfx` after the operand `w`, then the rest of the spine; `p`: the suffix was a plain index -/
theorem dSpine_step {w : List Tk} {sfx rest : List Token} {b p bt : Bool}
    (h : E (w ++ tys sfx ++ tys rest) ∧ (bt = true → (rest = [] ∧ p = true) ∨ IdxForm (w ++ tys sfx ++ tys rest)))
    (hp : p = true → IdxForm (w ++ tys sfx)) :
    E (w ++ tys (sfx ++ rest)) ∧ (bt = true → (sfx ++ rest = [] ∧ b = true) ∨ IdxForm (w ++ tys (sfx ++ rest))) := by
  rw [tys_append, ← List.append_assoc]
  refine ⟨h.1, fun hb => .inr ?_⟩
  rcases h.2 hb with ⟨rfl, hpt⟩ | hi
  · simpa using hp hpt
  · exact hi

/-- the tail of the four productions with arguments up to a closing bracket `c` -/
theorem closed_args {c : Tk} {wa : List Tk} (h : ∃ w, Der "arglist" w ∧ (wa = w ++ [c] ∨ wa = w ++ [Tk.COMMA, c])) :
    DerSeq ["arglist", c.name] wa ∨ DerSeq ["arglist", "COMMA", c.name] wa := by
  obtain ⟨w, hw, e | e⟩ := h <;> rw [e]
  · exact .inl (.nt hw (.t c .nil))
  · exact .inr (.nt hw (.t .COMMA (.t c .nil)))

/-- The grammar is left-recursive where the relations loop to the right (suffixes, arguments, dict items): those
    statements carry what has been read so far (`w`, `w0`, `p`).  The spine also tracks whether the whole has the form
    `container [ key ]`, which `del e[k]`, `e[k] = v` need. -/
theorem d_all :
    RAll (fun _ _ ts _ b _ => E (tys ts) ∧ (b = true → IdxForm (tys ts)))
      (fun ts _ _ => E (tys ts))
      (fun _ _ _ b ts _ bt _ => ∀ w, E w →
        E (w ++ tys ts) ∧ (bt = true → (ts = [] ∧ b = true) ∨ IdxForm (w ++ tys ts)))
      (fun close ts _ => ∃ w, Der "arglist" w ∧ (tys ts = w ++ [close] ∨ tys ts = w ++ [Tk.COMMA, close]))
      (fun close _ ts _ => ∀ w0, Der "arglist" w0 →
        ∃ w, Der "arglist" (w0 ++ w) ∧ (tys ts = w ++ [close] ∨ tys ts = w ++ [Tk.COMMA, close]))
      (fun _ ts _ => ∀ (p : Option (List Tk)), (∀ w0, p = some w0 → Der "dict_item" w0) →
        ∃ w, Der "dict_item" (comb Tk.COMMA p w) ∧ (tys ts = w ++ [Tk.RBRACE] ∨ tys ts = w ++ [Tk.COMMA, Tk.RBRACE]))
      (fun _ ts _ => ∀ w0, Der "arglist" w0 →
        ∃ w, Der "arglist_def" (w0 ++ Tk.COMMA :: w) ∧ tys ts = w ++ [Tk.RPAREN])
      (fun ts _ plain => ∃ w, tys ts = w ++ [Tk.RBRACKET] ∧ Der "slice" w ∧ (plain = true → E w)) :=
  RAll.induct
    (expr_mk := fun {_ _ ts0} _ _ _ _ _ _ _ ihp ihs => by
      obtain ⟨h1, h2⟩ := ihs (tys ts0) ihp
      rw [tys_append]
      refine ⟨h1, fun hb => ?_⟩
      rcases h2 hb with ⟨_, hf⟩ | hi
      · cases hf
      · exact hi)
    (prim_atom := fun ha => g_atom ha)
    (prim_name := fun ht _ _ => .prod 72 rfl (.tok ht .nil))
    (prim_call0 := fun hn hl hr => .prod 20 rfl (.tok hn (.tok hl (.tok hr .nil))))
    (prim_call := fun hn hl _ iha =>
      (closed_args iha).elim (fun h => .prod 18 rfl (.tok hn (.tok hl h))) (fun h => .prod 19 rfl (.tok hn (.tok hl h))))
    (prim_lam1 := fun hn hl _ ihe => .prod 27 rfl (.tok hn (.tok hl (.last ihe.1))))
    (prim_paren := fun hl _ hr ihe => by
      rw [tys_append]; exact .prod 67 rfl (.tok hl (.nt ihe.1 (.tok hr .nil))))
    (prim_lamN := fun {_ ts0} _ _ _ _ _ _ _ _ _ _ hl _ hc _ hlam _ ih0 ihp ihb => by
      obtain ⟨w, hw, e⟩ := ihp (tys ts0) (g_arg1 ih0.1)
      have : E (Tk.LPAREN :: ((tys ts0 ++ Tk.COMMA :: w) ++ Tk.RPAREN :: Tk.LAMBDA :: tys _)) :=
        .prod 28 rfl (.t .LPAREN (.nt hw (.t .RPAREN (.t .LAMBDA (.last ihb.1)))))
      simpa [hl, hc, hlam, e] using this)
    (prim_list0 := fun hl hr => .prod 46 rfl (.tok hl (.tok hr .nil)))
    (prim_list := fun hl _ iha =>
      (closed_args iha).elim (fun h => .prod 47 rfl (.tok hl h)) (fun h => .prod 48 rfl (.tok hl h)))
    (prim_dict0 := fun hl hr => .prod 49 rfl (.tok hl (.tok hr .nil)))
    (prim_dict := fun hl _ ihd => by
      obtain ⟨w, hw, e | e⟩ := ihd none (fun _ h => nomatch h) <;> rw [tys_cons, e]
      · exact .prod 50 rfl (.tok hl (.nt hw (.t .RBRACE .nil)))
      · exact .prod 51 rfl (.tok hl (.nt hw (.t .COMMA (.t .RBRACE .nil)))))
    (prim_neg := fun hm _ ihe => .prod 66 rfl (.tok hm (.last ihe.1)))
    (prim_not := fun hn _ ihe => .prod 71 rfl (.tok hn (.last ihe.1)))
    (spine_nil := fun _ w hw => ⟨by simpa using hw, fun hb => .inl ⟨rfl, hb⟩⟩)
    (spine_bin := fun _ hk _ _ ihe ihs w hw =>
      dSpine_step (ihs _ (g_bin hk hw ihe.1)) fun h => nomatch h)
    (spine_notin := fun ho _ hi _ _ ihe ihs w hw =>
      dSpine_step (ihs _ (.prod 42 rfl (.nt hw (.tok ho (.tok hi (.last ihe.1)))))) fun h => nomatch h)
    (spine_ifx := fun ho _ _ hel _ _ ihc ihe ihs w hw =>
      dSpine_step (ihs _ (by
        rw [tys_append]; exact .prod 65 rfl (.nt hw (.tok ho (.nt ihc.1 (.tok hel (.last ihe.1))))))) fun h => nomatch h)
    (spine_index := fun {_ _ _ _ o _ _ tss} _ _ _ _ _ _ ho _ _ _ ihsub ihs w hw => by
      obtain ⟨ws, es, hsl, hpl⟩ := ihsub
      have e : w ++ tys (o :: tss) = w ++ Tk.LBRACKET :: ws ++ [Tk.RBRACKET] := by simp [ho, es]
      refine dSpine_step (ihs _ ?_) fun h => ⟨w, ws, e, hw, hpl h⟩
      rw [e, List.append_assoc]; exact .prod 60 rfl (.nt hw (.t .LBRACKET (.nt hsl (.t .RBRACKET .nil)))))
    (spine_dot0 := fun {_ _ _ _ o _ _ n lp rp} _ _ _ _ ho _ hn hl hr _ ihs w hw =>
      dSpine_step (sfx := [o, n, lp, rp]) (ihs _ (.prod 25 rfl (.nt hw (.tok ho (.tok hn (.tok hl (.tok hr .nil)))))))
        fun h => nomatch h)
    (spine_dot := fun ho _ hn hl _ _ iha ihs w hw =>
      dSpine_step (ihs _ ((closed_args iha).elim
        (fun h => .prod 21 rfl (.nt hw (.tok ho (.tok hn (.tok hl h)))))
        (fun h => .prod 23 rfl (.nt hw (.tok ho (.tok hn (.tok hl h))))))) fun h => nomatch h)
    (spine_pipe0 := fun {_ _ _ _ o _ _ n} _ _ _ _ ho _ hn _ _ ihs w hw =>
      dSpine_step (sfx := [o, n]) (ihs _ (.prod 26 rfl (.nt hw (.tok ho (.tok hn .nil))))) fun h => nomatch h)
    (spine_pipe := fun ho _ hn hl _ _ iha ihs w hw =>
      dSpine_step (ihs _ ((closed_args iha).elim
        (fun h => .prod 22 rfl (.nt hw (.tok ho (.tok hn (.tok hl h)))))
        (fun h => .prod 24 rfl (.nt hw (.tok ho (.tok hn (.tok hl h))))))) fun h => nomatch h)
    (args_mk := fun {_ ts0} _ _ _ _ _ _ ihe iht => by
      obtain ⟨w, hw, e⟩ := iht (tys ts0) (g_arg1 ihe.1)
      refine ⟨tys ts0 ++ w, hw, ?_⟩
      rw [tys_append]
      rcases e with e | e <;> simp [e])
    (tail_close := fun hc _ w0 h0 => ⟨[], by simpa using h0, .inl (by simp [tys, hc])⟩)
    (tail_trailing := fun hcm hc w0 h0 => ⟨[], by simpa using h0, .inr (by simp [tys, hcm, hc])⟩)
    (tail_more := fun {_ _ _ ts0} _ _ _ _ hcm _ _ _ ihe iht w0 h0 => by
      obtain ⟨w, hw, e⟩ := iht (w0 ++ Tk.COMMA :: tys ts0) (g_argn h0 ihe.1)
      refine ⟨Tk.COMMA :: tys ts0 ++ w, by simpa using hw, ?_⟩
      rcases e with e | e <;> simp [hcm, e])
    (dict_last := fun {_ tsk _ _ _ tsv} _ _ _ _ hcol _ hrb ihk ihv p hp =>
      ⟨tys tsk ++ Tk.COLON :: tys tsv, g_item hp ihk.1 ihv.1, .inl (by simp [hcol, hrb])⟩)
    (dict_lastComma := fun {_ tsk _ _ _ tsv} _ _ _ _ _ hcol _ hcm hrb ihk ihv p hp =>
      ⟨tys tsk ++ Tk.COLON :: tys tsv, g_item hp ihk.1 ihv.1, .inr (by simp [hcol, hcm, hrb])⟩)
    (dict_more := fun {_ tsk _ _ _ tsv} _ _ _ _ _ _ hcol _ hcm _ _ ihk ihv ihd p hp => by
      obtain ⟨w, hw, e⟩ := ihd (some (comb Tk.COMMA p (tys tsk ++ Tk.COLON :: tys tsv)))
        (fun w0 h => Option.some.inj h ▸ g_item hp ihk.1 ihv.1)
      refine ⟨tys tsk ++ Tk.COLON :: tys tsv ++ Tk.COMMA :: w, ?_, ?_⟩
      · cases p <;> simpa [comb] using hw
      · rcases e with e | e <;> simp [hcol, hcm, e])
    (params_last := fun hn hr w0 h0 => ⟨[Tk.NAME], .prod 75 rfl (.nt h0 (.t .COMMA (.t .NAME .nil))), by simp [tys, hn, hr]⟩)
    (params_more := fun {_ ts0} _ _ _ _ _ _ _ hcm _ ihe ihp w0 h0 => by
      obtain ⟨w, hw, e⟩ := ihp (w0 ++ Tk.COMMA :: tys ts0) (g_argn h0 ihe.1)
      exact ⟨tys ts0 ++ Tk.COMMA :: w, by simpa using hw, by simp [hcm, e]⟩)
    (sub_idx := fun {ts} _ _ _ _ hr ihe => ⟨tys ts, by simp [hr], .prod 52 rfl (.last ihe.1), fun _ => ihe.1⟩)
    (sub_all := fun hc hr => ⟨[Tk.COLON], by simp [tys, hc, hr], .prod 53 rfl (.t .COLON .nil), fun h => nomatch h⟩)
    (sub_step := fun {_ _ ts} _ _ _ h1 h2 _ hr ihe =>
      ⟨Tk.COLON :: Tk.COLON :: tys ts, by simp [h1, h2, hr], .prod 59 rfl (.t .COLON (.t .COLON (.last ihe.1))),
        fun h => nomatch h⟩)
    (sub_stop := fun {_ ts} _ _ _ hc _ hr ihe =>
      ⟨Tk.COLON :: tys ts, by simp [hc, hr], .prod 56 rfl (.t .COLON (.last ihe.1)), fun h => nomatch h⟩)
    (sub_stopColon := fun {_ ts} _ _ _ _ hc _ hc2 hr ihe =>
      ⟨Tk.COLON :: tys ts ++ [Tk.COLON], by simp [hc, hc2, hr], .prod 58 rfl (.t .COLON (.nt ihe.1 (.t .COLON .nil))),
        fun h => nomatch h⟩)
    (sub_start := fun {ts} _ _ _ _ _ hc hr ihe =>
      ⟨tys ts ++ [Tk.COLON], by simp [hc, hr], .prod 55 rfl (.nt ihe.1 (.t .COLON .nil)), fun h => nomatch h⟩)
    (sub_startColon := fun {ts} _ _ _ _ _ _ hc hc2 hr ihe =>
      ⟨tys ts ++ [Tk.COLON, Tk.COLON], by simp [hc, hc2, hr], .prod 57 rfl (.nt ihe.1 (.t .COLON (.t .COLON .nil))),
        fun h => nomatch h⟩)
    (sub_startStop := fun {ts _ _ _ ts2} _ _ _ _ hc _ hr ihe ihe2 =>
      ⟨tys ts ++ Tk.COLON :: tys ts2, by simp [hc, hr], .prod 54 rfl (.nt ihe.1 (.t .COLON (.last ihe2.1))),
        fun h => nomatch h⟩)

theorem dExpr : ∀ {m a ts t b nxt}, RExpr m a ts t b nxt → E (tys ts) ∧ (b = true → IdxForm (tys ts)) :=
  fun h => d_all.expr h

theorem dPrim : ∀ {ts t la}, RPrim ts t la → E (tys ts) :=
  fun h => d_all.prim h

theorem dSpine : ∀ {m a l b ts t bt nxt}, RSpine m a l b ts t bt nxt → ∀ w, E w →
    E (w ++ tys ts) ∧ (bt = true → (ts = [] ∧ b = true) ∨ IdxForm (w ++ tys ts)) :=
  fun h => d_all.spine h

theorem dArgs : ∀ {close ts out}, RArgs close ts out →
    ∃ w, Der "arglist" w ∧ (tys ts = w ++ [close] ∨ tys ts = w ++ [Tk.COMMA, close]) :=
  fun h => d_all.args h

theorem dArgsTail : ∀ {close acc ts out}, RArgsTail close acc ts out → ∀ w0, Der "arglist" w0 →
    ∃ w, Der "arglist" (w0 ++ w) ∧ (tys ts = w ++ [close] ∨ tys ts = w ++ [Tk.COMMA, close]) :=
  fun h => d_all.tail h

theorem dDict : ∀ {acc ts out}, RDict acc ts out → ∀ (p : Option (List Tk)), (∀ w0, p = some w0 → Der "dict_item" w0) →
    ∃ w, Der "dict_item" (comb Tk.COMMA p w) ∧ (tys ts = w ++ [Tk.RBRACE] ∨ tys ts = w ++ [Tk.COMMA, Tk.RBRACE]) :=
  fun h => d_all.dict h

theorem dParams : ∀ {acc ts out}, RParams acc ts out → ∀ w0, Der "arglist" w0 →
    ∃ w, Der "arglist_def" (w0 ++ Tk.COMMA :: w) ∧ tys ts = w ++ [Tk.RPAREN] :=
  fun h => d_all.params h

theorem dSub : ∀ {ts k plain}, RSub ts k plain → ∃ w, tys ts = w ++ [Tk.RBRACKET] ∧ Der "slice" w ∧ (plain = true → E w) :=
  fun h => d_all.sub h

theorem dStmt {ts : List Token} {s : Option Op} {nxt : LA} (h : RStmt ts s nxt) : Der "statement" (tys ts) := by
  cases h with
  | empty _ => exact .prod 5 rfl .nil
  | expr _ he => exact .prod 4 rfl (.last (dExpr he).1)
  | assign _ hn heq he => exact .prod 16 rfl (.tok hn (.tok heq (.last (dExpr he).1)))
  | short _ hn ho _ he => exact .prod 17 rfl (.tok hn (.tok ho (.last (dExpr he).1)))
  | del _ hd he _ =>
    obtain ⟨wc, wk, e, hc, hk⟩ := (dExpr he).2 rfl
    rw [tys_cons, e, List.append_assoc]
    exact .prod 62 rfl (.tok hd (.nt hc (.t .LBRACKET (.nt hk (.t .RBRACKET .nil)))))
  | setitem _ he _ heq hv =>
    obtain ⟨wc, wk, e, hc, hk⟩ := (dExpr he).2 rfl
    rw [tys_append, e, List.append_assoc, List.append_assoc]
    exact .prod 63 rfl (.nt hc (.t .LBRACKET (.nt hk (.t .RBRACKET (.tok heq (.last (dExpr hv).1))))))
  | setop _ he _ ho hv =>
    obtain ⟨wc, wk, e, hc, hk⟩ := (dExpr he).2 rfl
    rw [tys_append, e, List.append_assoc, List.append_assoc]
    exact .prod 64 rfl (.nt hc (.t .LBRACKET (.nt hk (.t .RBRACKET (.tok ho (.last (dExpr hv).1))))))

theorem dCode {acc : List Op} {ts : List Token} {out : List Op} (h : RCode acc ts out) :
    ∀ (p : Option (List Tk)), (∀ w0, p = some w0 → Der "code" w0) → Der "code" (comb Tk.NEWLINE p (tys ts)) := by
  induction h with
  | last hs => exact fun p hp => g_code hp (dStmt hs)
  | @more acc ts s nl rest out hs hnl _ ih =>
    intro p hp
    have := ih (some (comb Tk.NEWLINE p (tys ts))) (fun w0 h => Option.some.inj h ▸ g_code hp (dStmt hs))
    cases p <;> simpa [comb, tys_append, hnl] using this

theorem relation_derives_grammar {ts : List Token} {out : List Op} (h : RCode [] ts out) : Der "S'" (tys ts) :=
  .prod 0 rfl (.last (dCode h none (fun _ h => nomatch h)))

end Sq
