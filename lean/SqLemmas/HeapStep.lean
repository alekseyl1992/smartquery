/-
  What a machine step may do to the heap, as a relation between worlds: `HStepM M w w'` (every existing object other than
  the top scope dictionaries and the objects at addresses satisfying `M` is unchanged, scope dictionaries stay scope
  dictionaries or are new, nothing is removed), its special case `HStep` (`M` empty) and the weaker `HPres`; and how the
  elementary updates of the world — allocation, a builtin's result, pushing and popping scopes, charging an op — fit it.
-/
import SqLemmas.InvAll
import SqLemmas.MachineLemmas
namespace Sq.Inv
open SqProps.C13 (HeapExt)

def scopesOf (w : World) : List Nat := w.vms.flatMap (·.scopes)

theorem mem_scopesOf {w : World} {a : Nat} : a ∈ scopesOf w ↔ ∃ vm, vm ∈ w.vms ∧ a ∈ vm.scopes := by
  unfold scopesOf; simp [List.mem_flatMap]

theorem vm_mem {w : World} {i : Nat} {vm : VM} (h : w.vm? i = some vm) : vm ∈ w.vms := by
  unfold World.vm? at h
  exact List.mem_of_getElem? h

/-- the top scope dictionary of every VM state: where assignments write -/
def topsOf (w : World) : List Nat := w.vms.filterMap (·.scopes.head?)

theorem mem_topsOf {w : World} {a : Nat} : a ∈ topsOf w ↔ ∃ vm, vm ∈ w.vms ∧ vm.scopes.head? = some a := by
  unfold topsOf; simp [List.mem_filterMap]

theorem tops_sub_scopes {w : World} {a : Nat} (h : a ∈ topsOf w) : a ∈ scopesOf w := by
  obtain ⟨vm, hvm, hh⟩ := mem_topsOf.mp h
  exact mem_scopesOf.mpr ⟨vm, hvm, List.mem_of_mem_head? hh⟩

theorem scopes_setVM {w : World} {i : Nat} {vm' : VM} {a : Nat} (h : a ∈ scopesOf (w.setVM i vm')) :
    a ∈ scopesOf w ∨ a ∈ vm'.scopes := by
  obtain ⟨vm, hvm, hav⟩ := mem_scopesOf.mp h
  rcases List.mem_or_eq_of_mem_set hvm with hm | rfl
  · exact Or.inl (mem_scopesOf.mpr ⟨vm, hm, hav⟩)
  · exact Or.inr hav

theorem tops_setVM {w : World} {i : Nat} {vm' : VM} {a : Nat} (h : a ∈ topsOf (w.setVM i vm')) :
    a ∈ topsOf w ∨ vm'.scopes.head? = some a := by
  obtain ⟨vm, hvm, hav⟩ := mem_topsOf.mp h
  rcases List.mem_or_eq_of_mem_set hvm with hm | rfl
  · exact Or.inl (mem_topsOf.mpr ⟨vm, hm, hav⟩)
  · exact Or.inr hav

structure HPres (w w' : World) : Prop where
  keep : ∀ a, a < w.heap.size → a ∉ scopesOf w → w'.heap.get? a = w.heap.get? a
  scopes : ∀ a, a ∈ scopesOf w' → a ∈ scopesOf w ∨ w.heap.size ≤ a
  size : w.heap.size ≤ w'.heap.size

theorem HPres.refl (w : World) : HPres w w := ⟨fun _ _ _ => rfl, fun _ h => Or.inl h, Nat.le_refl _⟩

theorem HPres.trans {a b c : World} (h1 : HPres a b) (h2 : HPres b c) : HPres a c := by
  refine ⟨?_, ?_, Nat.le_trans h1.size h2.size⟩
  · intro x hx hs
    have hb : x ∉ scopesOf b := fun hm => by
      rcases h1.scopes x hm with h | h
      · exact hs h
      · omega
    rw [h2.keep x (Nat.lt_of_lt_of_le hx h1.size) hb, h1.keep x hx hs]
  · intro x hx
    rcases h2.scopes x hx with h | h
    · exact h1.scopes x h
    · exact Or.inr (Nat.le_trans h1.size h)

/-- one machine step: only the TOP scope dictionaries may change, so a scope dictionary covered by a lambda call's scope
    cannot change in this step -/
structure HStep (w w' : World) : Prop where
  keep : ∀ a, a < w.heap.size → a ∉ topsOf w → w'.heap.get? a = w.heap.get? a
  scopes : ∀ a, a ∈ scopesOf w' → a ∈ scopesOf w ∨ w.heap.size ≤ a
  size : w.heap.size ≤ w'.heap.size

theorem HStep.toHPres {w w' : World} (h : HStep w w') : HPres w w' :=
  ⟨fun a ha hs => h.keep a ha (fun ht => hs (tops_sub_scopes ht)), h.scopes, h.size⟩

/-- like `HStep`, except that the objects at addresses satisfying `M` may change too (a mutator changes its receiver) -/
structure HStepM (M : Nat → Prop) (w w' : World) : Prop where
  keep : ∀ a, a < w.heap.size → a ∉ topsOf w → ¬ M a → w'.heap.get? a = w.heap.get? a
  scopes : ∀ a, a ∈ scopesOf w' → a ∈ scopesOf w ∨ w.heap.size ≤ a
  size : w.heap.size ≤ w'.heap.size

theorem HStep.toM {M : Nat → Prop} {w w' : World} (h : HStep w w') : HStepM M w w' :=
  ⟨fun a ha hn _ => h.keep a ha hn, h.scopes, h.size⟩

theorem HStepM.toHStep {w w' : World} (h : HStepM (fun _ => False) w w') : HStep w w' :=
  ⟨fun a ha hn => h.keep a ha hn (fun f => f), h.scopes, h.size⟩

/-- only the heap and the scope stacks of the two worlds matter -/
theorem HStepM.of_eq {M : Nat → Prop} {w w' : World} (hh : w'.heap = w.heap) (hv : w'.vms = w.vms) : HStepM M w w' :=
  ⟨fun _ _ _ _ => by rw [hh], fun a h => Or.inl (by unfold scopesOf at h ⊢; rw [hv] at h; exact h), by rw [hh]; exact Nat.le_refl _⟩

theorem hpM_heap {M : Nat → Prop} {w : World} {h' : Heap} (hx : HeapMod M w.heap h') : HStepM M w { w with heap := h' } :=
  ⟨fun a ha _ hm => hx.2 a ha hm, fun _ h => Or.inl h, hx.1⟩

theorem setVM_step {M : Nat → Prop} {w : World} {h' : Heap} (hx : HeapMod M w.heap h') (i : Nat) (vm' : VM)
    (h : ∀ a, a ∈ vm'.scopes → a ∈ scopesOf w ∨ w.heap.size ≤ a) :
    HStepM M w (({ w with heap := h' } : World).setVM i vm') :=
  ⟨fun a ha _ hm => hx.2 a ha hm, fun a ha => (scopes_setVM ha).elim Or.inl (h a), hx.1⟩

/-- two steps in a row, when the first puts no existing object on top of a scope stack -/
theorem HStepM.trans {M : Nat → Prop} {w w' w'' : World} (h1 : HStepM M w w')
    (ht : ∀ a, a ∈ topsOf w' → a ∈ topsOf w ∨ w.heap.size ≤ a) (h2 : HStepM M w' w'') : HStepM M w w'' := by
  refine ⟨fun a ha hn hm => ?_, fun a ha => ?_, Nat.le_trans h1.size h2.size⟩
  · have hn' : a ∉ topsOf w' := fun h => (ht a h).elim hn (fun h => by omega)
    rw [h2.keep a (Nat.lt_of_lt_of_le ha h1.size) hn' hm, h1.keep a ha hn hm]
  · exact (h2.scopes a ha).elim (h1.scopes a) (fun h => Or.inr (Nat.le_trans h1.size h))

theorem alloc_step {M : Nat → Prop} (w : World) (o : HObj) : HStepM M w { w with heap := (w.heap.alloc o).1 } :=
  hpM_heap (heapMod_of_ext (SqProps.C13.alloc_ext w.heap o))

theorem ofBR_step {M : Nat → Prop} : ∀ (r : BR) (k : List Frame) (w : World),
    (∀ v s, r = .ok (v, s) → HeapMod M w.heap s.heap) → HStepM M w (ofBR r k w).w
  | .ok (v, s), k, w, h => ofBR_ok v s k w ▸ ⟨fun a ha _ hm => (h v s rfl).2 a ha hm, fun _ h => Or.inl h, (h v s rfl).1⟩
  | .error e, k, w, _ => ofBR_error e k w ▸ .of_eq rfl rfl

theorem ofBR_hp (r : BR) (k : List Frame) (w : World) (h : ∀ v s, r = .ok (v, s) → HeapExt w.heap s.heap) :
    HStep w (ofBR r k w).w :=
  (ofBR_step r k w (fun v s e => heapMod_of_ext (h v s e))).toHStep

/-- a lambda call: one new scope dictionary on top of the scopes of the closure's VM state -/
theorem pushScope_step {M : Nat → Prop} {w : World} {vmi : Nat} {vm : VM} {o : HObj} (hv : w.vm? vmi = some vm) :
    HStepM M w (({ w with heap := w.heap.push o } : World).setVM vmi { vm with scopes := w.heap.size :: vm.scopes }) := by
  refine setVM_step (heapMod_of_ext (SqProps.C13.alloc_ext w.heap o)) _ _ fun a ha => ?_
  rcases List.mem_cons.mp ha with e | e
  · exact Or.inr (Nat.le_of_eq e.symm)
  · exact Or.inl (mem_scopesOf.mpr ⟨vm, vm_mem hv, e⟩)

/-- the end of a lambda call, normal or by an error: its scope dictionary is taken off -/
theorem popScope_step {M : Nat → Prop} {w : World} {vmi : Nat} {vm : VM} (hv : w.vm? vmi = some vm) :
    HStepM M w (w.setVM vmi { vm with scopes := vm.scopes.tail }) :=
  setVM_step (heapMod_refl _ _) _ _ fun _ ha => Or.inl (mem_scopesOf.mpr ⟨vm, vm_mem hv, List.mem_of_mem_tail ha⟩)

variable {M : Nat → Prop}

theorem applyBin_step {w : World} {bk : BinK} {a b r : Val} {w' : World} (h : applyBin w bk a b = .ok (r, w')) : HStepM M w w' := by
  rcases applyBin_world h with rfl | ⟨b2, hp, hadd, rfl⟩
  · exact .of_eq rfl rfl
  · exact hpM_heap (heapMod_of_ext (pyAdd_ext _ _ _ _ _ hadd))

/-- a top-level or lambda-local assignment writes into the top scope dictionary and nowhere else -/
theorem writeTop_step {w : World} {h' h'' : Heap} {vm : VM} {vmi : Nat} (hv : w.vm? vmi = some vm) (hx : HeapMod M w.heap h')
    {n : Name} {v : Val} (hwt : writeTop h' vm.scopes n v = some h'') : HStepM M w { w with heap := h'' } := by
  obtain ⟨a, rest, _, hsc, -, rfl⟩ := of_writeTop_eq_some hwt
  have ha : a ∈ topsOf w := mem_topsOf.mpr ⟨vm, vm_mem hv, by rw [hsc]; simp⟩
  have hm (o : HObj) : HeapMod (fun x => x ∈ topsOf w ∨ M x) w.heap (h'.set a o) :=
    (hx.mono (fun _ => Or.inr)).trans (heapMod_set _ (Or.inl ha) o)
  exact ⟨fun x hx hn hm' => (hm _).2 x hx (fun h => h.elim hn hm'), fun _ h => Or.inl h, (hm _).1⟩

/-- charging an op changes neither the heap nor any scope stack -/
theorem charge_step {w : World} {budgets : List Nat} {vmi : Nat} {w' : World} {lim : Option Nat}
    (h : charge w budgets vmi = some (w', lim)) : HStepM M w w' := by
  obtain ⟨vm, hvm, rfl⟩ := of_charge_eq_some h
  exact setVM_step (heapMod_refl _ _) _ _ (fun a ha => Or.inl (mem_scopesOf.mpr ⟨vm, vm_mem hvm, ha⟩))

theorem HStepM.after_charge {w w' w'' : World} {budgets : List Nat} {vmi : Nat} {lim : Option Nat}
    (h : charge w budgets vmi = some (w', lim)) (h2 : HStepM M w' w'') : HStepM M w w'' := by
  refine (charge_step h).trans (fun a ha => Or.inl ?_) h2
  obtain ⟨vm, hvm, rfl⟩ := of_charge_eq_some h
  exact (tops_setVM ha).elim id (fun e => mem_topsOf.mpr ⟨vm, vm_mem hvm, e⟩)

theorem HStep.after_charge {w w' w'' : World} {budgets : List Nat} {vmi : Nat} {lim : Option Nat}
    (h : charge w budgets vmi = some (w', lim)) (h2 : HStep w' w'') : HStep w w'' :=
  (HStepM.after_charge h h2.toM).toHStep

end Sq.Inv
