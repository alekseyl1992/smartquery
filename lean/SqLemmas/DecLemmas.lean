/-
  The two arithmetic notions under the decimal model: the digit count (`ndigits n ≤ k ↔ n < 10^k`)
  and half-even rounding of a quotient of naturals, `roundRat`; `roundDiv .halfEven` is `roundRat` at the divisor `10^k`.
  Then the exact sum `addExact` read over ℤ (`addExact_int`), from which C08 and RatSpec cast it.
-/
import Sq.Dec
namespace Sq.Dec

theorem ndigitsAux_pos (f n : Nat) : 1 ≤ ndigitsAux f n := by
  cases f with
  | zero => exact Nat.le_refl 1
  | succ f => unfold ndigitsAux; split <;> omega

theorem ndigits_pos (n : Nat) : 1 ≤ ndigits n := ndigitsAux_pos n n

theorem ndigitsAux_le_iff : ∀ (f n j : Nat), n ≤ f → (ndigitsAux f n ≤ j + 1 ↔ n < 10 ^ (j + 1)) := by
  intro f
  induction f with
  | zero =>
    intro n j hn
    have h0 : n = 0 := by omega
    subst h0
    exact ⟨fun _ => Nat.pow_pos (by decide), fun _ => Nat.le_add_left 1 j⟩
  | succ f ih =>
    intro n j hn
    have hp : 10 ≤ 10 ^ (j + 1) := Nat.le_self_pow (by omega) 10
    unfold ndigitsAux
    split
    · exact ⟨fun _ => by omega, fun _ => by omega⟩
    · cases j with
      | zero => have := ndigitsAux_pos f (n / 10); omega
      | succ i =>
        rw [Nat.add_le_add_iff_right, ih (n / 10) i (by omega), Nat.div_lt_iff_lt_mul (by decide), ← Nat.pow_succ]

theorem ndigits_le_iff (n k : Nat) (hk : 1 ≤ k) : ndigits n ≤ k ↔ n < 10 ^ k := by
  obtain ⟨j, rfl⟩ : ∃ j, k = j + 1 := ⟨k - 1, by omega⟩
  exact ndigitsAux_le_iff n n j (Nat.le_refl n)

theorem lt_pow_ndigits (n : Nat) : n < 10 ^ ndigits n :=
  (ndigits_le_iff n _ (ndigits_pos n)).mp (Nat.le_refl _)

theorem lt_ndigits_iff (n k : Nat) (hk : 1 ≤ k) : k < ndigits n ↔ 10 ^ k ≤ n := by
  rw [← Nat.not_le, ndigits_le_iff n k hk, Nat.not_lt]

theorem pow_pred_ndigits_le (n : Nat) (hn : 0 < n) : 10 ^ (ndigits n - 1) ≤ n := by
  by_cases h1 : ndigits n - 1 = 0
  · rw [h1, Nat.pow_zero]; exact hn
  · exact (lt_ndigits_iff n (ndigits n - 1) (by omega)).mp (by have := ndigits_pos n; omega)

/-- half-even rounding of the rational `n / d` to an integer -/
def roundRat (n d : Nat) : Nat :=
  if 2 * (n % d) > d then n / d + 1 else if 2 * (n % d) = d ∧ (n / d) % 2 = 1 then n / d + 1 else n / d

theorem roundDiv_halfEven (neg : Bool) (c k : Nat) : roundDiv .halfEven neg c k = roundRat c (10 ^ k) := rfl

/-- `m·p` is a multiple of `p` nearest to `n`: `|n − m·p| ≤ p / 2`, doubled to stay in ℕ -/
def Nearest (n m p : Nat) : Prop := 2 * n ≤ 2 * (m * p) + p ∧ 2 * (m * p) ≤ 2 * n + p

def NearestEven (n m p : Nat) : Prop :=
  Nearest n m p ∧ ((2 * n = 2 * (m * p) + p ∨ 2 * (m * p) = 2 * n + p) → m % 2 = 0)

theorem roundRat_nearest (n d : Nat) (hd : 0 < d) : NearestEven n (roundRat n d) d := by
  unfold NearestEven Nearest
  have hr : n % d < d := Nat.mod_lt n hd
  have hn : n = n / d * d + n % d := by rw [Nat.mul_comm]; exact (Nat.div_add_mod n d).symm
  have hup : (n / d + 1) * d = n / d * d + d := Nat.succ_mul ..
  unfold roundRat
  generalize n / d = q at *
  generalize n % d = r at *
  generalize hm : q * d = m at *
  -- with `n = m + r`, `r < d`, and the kept multiple named (`m` or `m + d`), each case is linear arithmetic
  split
  · rw [hup]; omega
  · split
    · rw [hup]; omega
    · rw [hm]; omega

theorem roundRat_mul_right (n d k : Nat) (hk : 0 < k) : roundRat (n * k) (d * k) = roundRat n d := by
  have e : ∀ x, 2 * (x * k) = 2 * x * k := fun x => (Nat.mul_assoc 2 x k).symm
  unfold roundRat
  rw [Nat.mul_div_mul_right _ _ hk, Nat.mul_mod_mul_right, e]
  simp only [gt_iff_lt, Nat.mul_lt_mul_right hk, Nat.mul_left_inj (Nat.ne_of_gt hk)]

theorem nearest_carry (n m p : Nat) (h : Nearest n (m * 10) p) : Nearest n m (p * 10) := by
  unfold Nearest at *
  rw [Nat.mul_assoc, Nat.mul_comm 10 p] at h
  generalize m * (p * 10) = t at h ⊢
  omega

theorem roundDiv_le (mode : Rounding) (neg : Bool) (c k : Nat) : roundDiv mode neg c k ≤ c / 10 ^ k + 1 := by
  unfold roundDiv
  cases mode <;> simp only [] <;> (repeat' split) <;> omega

theorem roundDiv_ge (mode : Rounding) (neg : Bool) (c k : Nat) : c / 10 ^ k ≤ roundDiv mode neg c k := by
  unfold roundDiv
  cases mode <;> simp only [] <;> (repeat' split) <;> omega

/-- sign and `natAbs` of an integer `s` put `s` back together; this is how `addExact` stores its sum (a zero sum keeps a
    sign of its own).  About a variable `r` with its equation `hr`, which `addExact_int` closes by `rfl`: `generalize` on the
    unfolded `addExact` fails. -/
theorem signed_natAbs (n0 : Bool) (s e : Int) (r : Dec)
    (hr : r = if s = 0 then ⟨n0, 0, e⟩ else ⟨decide (s < 0), s.natAbs, e⟩) :
    (if r.neg then -1 else 1) * (r.coeff : Int) = s ∧ r.exp = e := by
  subst hr
  by_cases h0 : s = 0
  · simp [h0]
  · rw [if_neg h0]
    refine ⟨?_, rfl⟩
    by_cases hneg : s < 0
    · simp [hneg]; omega
    · simp [hneg]; omega

/-- the exact sum over ℤ: its signed coefficient is the sum of the operands' signed coefficients at the common exponent -/
theorem addExact_int (a b : Dec) :
    (if (addExact a b).neg then -1 else 1) * ((addExact a b).coeff : Int) =
      (if a.neg then -1 else 1) * ((a.coeff * 10 ^ (a.exp - min a.exp b.exp).toNat : Nat) : Int) +
      (if b.neg then -1 else 1) * ((b.coeff * 10 ^ (b.exp - min a.exp b.exp).toNat : Nat) : Int)
    ∧ (addExact a b).exp = min a.exp b.exp :=
  signed_natAbs _ _ _ _ rfl

end Sq.Dec
