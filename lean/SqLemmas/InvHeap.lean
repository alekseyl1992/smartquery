/-
  The heap step along runs, for any `M` and any program (`run_step_heap`, `run_size`, `run_keep`, from `step_heap` of
  InvMachine); then its instance for programs without mutators and compound assignments (`M` empty: only the top scope
  dictionaries change), and `Quiet`, the trees such programs are.
-/
import SqLemmas.InvMachine
import SqLemmas.HarmlessAll
namespace Sq.Inv

variable {Pc : List Op → Op → Nat → Prop} {Pb : String → Prop} {Pq : String → Prop} {Pr : Nat → Prop}
variable {Po : Op → Prop} {Pn : Name → Prop} {Psh : Prop} {M : Nat → Prop}
local macro "PureOK" : term => `(PureOKg Pc Pb Pq Pr M)
local macro "InplaceOK" : term => `(InplaceOKg Pc Pb Pq Pr Psh M)

variable (M) in
theorem run_step_heap (hok : OpsOK Pc Pb Po Pn Psh) (hb : PureOK) (hsh : InplaceOK) (c : Cfg)
    (h0 : CoreNPg Pc Pb Pq Pr Po Pn Psh c.core) (i : Nat) : HStepM M (run i c).w (run (i + 1) c).w := by
  rw [run_succ_right]
  exact step_heap hok hb hsh _ _ (run_np hok c h0 i)

variable (M) in
theorem run_size (hok : OpsOK Pc Pb Po Pn Psh) (hb : PureOK) (hsh : InplaceOK) (c : Cfg)
    (h0 : CoreNPg Pc Pb Pq Pr Po Pn Psh c.core) : ∀ i, c.w.heap.size ≤ (run i c).w.heap.size := by
  intro i
  induction i with
  | zero => exact Nat.le_refl _
  | succ i ih => exact Nat.le_trans ih (run_step_heap M hok hb hsh c h0 i).size

variable (M) in
theorem run_keep (hok : OpsOK Pc Pb Po Pn Psh) (hb : PureOK) (hsh : InplaceOK) (c : Cfg)
    (h0 : CoreNPg Pc Pb Pq Pr Po Pn Psh c.core) (a : Nat) (ha : a < c.w.heap.size) (hm : ¬ M a) :
    ∀ n, (∀ i, i < n → a ∉ topsOf (run i c).w) → (run n c).w.heap.get? a = c.w.heap.get? a := by
  intro n
  induction n with
  | zero => intro _; rfl
  | succ n ih =>
    intro hcov
    have := (run_step_heap M hok hb hsh c h0 n).keep a (Nat.lt_of_lt_of_le ha (run_size M hok hb hsh c h0 n))
      (hcov n (Nat.lt_succ_self n)) hm
    exact this.trans (ih (fun i hi => hcov i (Nat.lt_succ_of_lt hi)))

theorem pureOK_of_nonmut (hb : ∀ n, Pb n → n ∉ mutatorNames) : PureOKg Pc Pb Pq Pr M :=
  fun name args w v s hn _ _ h => heapMod_of_ext (callPure_nonmutating name (hb name hn) args w.bstate v s h)

theorem inplaceOK_of_not (hsh : ¬ Psh) : InplaceOKg Pc Pb Pq Pr Psh M :=
  fun _ _ _ _ _ _ h => absurd h hsh

/-- one step of a program without mutators and compound assignments changes the top scope dictionaries at most -/
theorem quiet_step (hok : OpsOK Pc Pb Po Pn Psh) (hb : ∀ n, Pb n → n ∉ mutatorNames) (hsh : ¬ Psh) (budgets : List Nat) (c : Core)
    (hc : CoreNPg Pc Pb Pq Pr Po Pn Psh c) : HStep c.w (stepCore budgets c).w :=
  (step_heap (M := fun _ => False) hok (pureOK_of_nonmut hb) (inplaceOK_of_not hsh) budgets c hc).toHStep

/-- along a run of a program without mutators no object other than a scope dictionary changes, and none becomes a scope
    dictionary: `HPres` composes, `HStep` does not -/
theorem run_hp (hok : OpsOK Pc Pb Po Pn Psh) (hb : ∀ n, Pb n → n ∉ mutatorNames) (hsh : ¬ Psh) (c : Cfg)
    (h0 : CoreNPg Pc Pb Pq Pr Po Pn Psh c.core) : ∀ i, HPres c.w (run i c).w := by
  intro i
  induction i with
  | zero => exact HPres.refl _
  | succ i ih => exact ih.trans (by rw [run_succ_right]; exact (quiet_step hok hb hsh _ _ (run_np hok c h0 i)).toHPres)

def QuietName (n : Name) : Prop := String.ofList n ∉ mutatorNames

/-- no compound assignment anywhere in the tree, no mutator named as a variable or as a callee (index assignment,
    compound index assignment and `del` are calls of `__setitem__`, `__setitem_with_op__`, `__delitem__`) -/
inductive Quiet : Op → Prop
  | noop : Quiet .noop
  | value {l} : Quiet (.value l)
  | code {ls} : (∀ l, l ∈ ls → Quiet l) → Quiet (.code ls)
  | bin {k a b} : Quiet a → Quiet b → Quiet (.bin k a b)
  | unary {k a} : Quiet a → Quiet (.unary k a)
  | assign {n v} : Quiet v → Quiet (.assign n v)
  | name {n} : QuietName n → Quiet (.name n)
  | ifx {c a b} : Quiet c → Quiet a → Quiet b → Quiet (.ifx c a b)
  | slice {a b c} : Quiet a → Quiet b → Quiet c → Quiet (.slice a b c)
  | call {n args} : QuietName n → (∀ a, a ∈ args → Quiet a) → Quiet (.call n args)
  | dict {kvs} : (∀ a, a ∈ kvs → Quiet a) → Quiet (.dict kvs)
  | lambda {ps body} : Quiet body → Quiet (.lambda ps body)

theorem opsOK_quiet : OpsOK (fun _ body _ => Quiet body) (· ∉ mutatorNames) Quiet QuietName False where
  builtin := fun _ h _ => h
  name := fun _ h => by cases h with | name h => exact h
  call := fun _ _ h => by cases h with | call h1 h2 => exact ⟨h1, h2⟩
  short := fun _ _ _ h => by cases h
  assign := fun _ _ h => by cases h with | assign h => exact h
  lambda := fun _ _ _ h => by cases h with | lambda h => exact h
  body := fun _ _ _ h => h
  code := fun _ h => by cases h with | code h => exact h
  bin := fun _ _ _ h => by cases h with | bin h1 h2 => exact ⟨h1, h2⟩
  unary := fun _ _ h => by cases h with | unary h => exact h
  ifx := fun _ _ _ h => by cases h with | ifx h1 h2 h3 => exact ⟨h1, h2, h3⟩
  slice := fun _ _ _ h => by cases h with | slice h1 h2 h3 => exact ⟨h1, h2, h3⟩
  dict := fun _ h => by cases h with | dict h => exact h

abbrev QuietWorld (w : World) : Prop := WorldNPg (fun _ body _ => Quiet body) (· ∉ mutatorNames) (fun _ => True) (fun _ => True) w

theorem init_quiet (w : World) (bs : List Nat) (namesAddr budget : Nat) (tree : Op) (astNames : List (Name × Op))
    (hw : QuietWorld w) (ht : Quiet tree) (ha : ∀ p, p ∈ astNames → Quiet p.2) :
    CoreNPg (fun _ body _ => Quiet body) (· ∉ mutatorNames) (fun _ => True) (fun _ => True) Quiet QuietName False
      (initCfg w bs namesAddr budget tree astNames).core :=
  init_inv w bs namesAddr budget tree astNames hw ht ha

end Sq.Inv
