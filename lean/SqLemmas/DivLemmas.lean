/-
  The sticky digit of `Decimal.__truediv__`.  `divPre` divides suitably scaled coefficients
  and, when the division is inexact, bumps a last digit 0 or 5 by one; rounding THAT number half-even at any digit position
  k ≥ 1 gives the half-even rounding of the TRUE quotient there, so `fix` returns the correctly rounded quotient.
-/
import SqLemmas.FixLemmas
namespace Sq.Dec

/-- the quotient with its sticky digit, as `divPre` builds it for an inexact division -/
def sticky (num den : Nat) : Nat := if (num / den) % 5 = 0 then num / den + 1 else num / den

theorem sticky_ge (num den : Nat) : num / den ≤ sticky num den := by
  unfold sticky; split <;> omega

theorem roundRat_off_half (c p h : Nat) (hp : p = 2 * h) (hne : c % p ≠ h) :
    roundRat c p = if h ≤ c % p then c / p + 1 else c / p := by
  unfold roundRat
  generalize c % p = s at *
  generalize c / p = Q
  by_cases hs : h ≤ s
  · rw [if_pos hs, if_pos (by omega)]
  · rw [if_neg hs, if_neg (by omega), if_neg (by omega)]

theorem div_mul_decomp (num den p : Nat) :
    num / (den * p) = (num / den) / p ∧ num % (den * p) = ((num / den) % p) * den + num % den :=
  ⟨(Nat.div_div_eq_div_mul num den p).symm, by rw [Nat.mod_mul, Nat.mul_comm, Nat.add_comm]⟩

/-- an inexact quotient lies strictly between `q` and `q + 1`, so at the divisor `den·p` it is never half-way -/
theorem roundRat_inexact (num den p h : Nat) (hd : 0 < den) (hp : p = 2 * h)
    (hr : num % den ≠ 0) :
    roundRat num (den * p) = if h ≤ (num / den) % p then (num / den) / p + 1 else (num / den) / p := by
  obtain ⟨e1, e2⟩ := div_mul_decomp num den p
  have hrl : num % den < den := Nat.mod_lt _ hd
  unfold roundRat
  rw [e1, e2, hp, show den * (2 * h) = 2 * (h * den) by rw [Nat.mul_left_comm, Nat.mul_comm den]]
  generalize (num / den) % (2 * h) = s
  generalize num % den = r at *
  generalize (num / den) / (2 * h) = Q
  by_cases hs : h ≤ s
  · have hA : h * den ≤ s * den := Nat.mul_le_mul_right den hs
    rw [if_pos hs, if_pos (by omega)]
  · have hA : (s + 1) * den ≤ h * den := Nat.mul_le_mul_right den (by omega)
    rw [Nat.succ_mul] at hA
    rw [if_neg hs, if_neg (by omega), if_neg (by omega)]

theorem sticky_div_mod (num den p h : Nat) (hp : p = 2 * h) (h5 : h % 5 = 0) (hh : 0 < h) :
    sticky num den / p = num / den / p ∧ sticky num den % p ≠ h ∧ (h ≤ sticky num den % p ↔ h ≤ num / den % p) := by
  have hp0 : 0 < p := by omega
  have hs5 : num / den % p % 5 = num / den % 5 := Nat.mod_mod_of_dvd _ (by omega)
  have hsl : num / den % p < p := Nat.mod_lt _ hp0
  have hq := Nat.mod_add_div (num / den) p
  unfold sticky
  generalize num / den = q at *
  split
  · generalize q % p = s at *
    -- `s` and `p` are multiples of 5, so `s + 1 < p`: the bump stays inside the same multiple of `p`
    have hdm : (q + 1) / p = q / p ∧ (q + 1) % p = s + 1 :=
      (Nat.div_mod_unique hp0).mpr ⟨by omega, by omega⟩
    rw [hdm.1, hdm.2]
    omega
  · generalize q % p = s at *
    omega

theorem sticky_round (neg : Bool) (num den k : Nat) (hd : 0 < den) (hk : 1 ≤ k) (hr : num % den ≠ 0) :
    roundDiv .halfEven neg (sticky num den) k = roundRat num (den * 10 ^ k) := by
  obtain ⟨j, rfl⟩ : ∃ j, k = j + 1 := ⟨k - 1, by omega⟩
  have hp : 10 ^ (j + 1) = 2 * (5 * 10 ^ j) := by rw [Nat.pow_succ]; omega
  have hh : 0 < 5 * 10 ^ j := Nat.mul_pos (by decide) (Nat.pow_pos (by decide))
  obtain ⟨e1, e2, e3⟩ := sticky_div_mod num den _ _ hp (Nat.mul_mod_right 5 _) hh
  rw [roundDiv_halfEven, roundRat_inexact num den _ _ hd hp hr, roundRat_off_half _ _ _ hp e2, e1]
  simp only [e3]

/-- `__truediv__` divides scaled integers: `divShift` is the power of ten that brings the quotient to at least 29 digits; `divNum`,
    `divDen`, `divExp` are numerator, denominator and exponent after the shift -/
def divShift (a b : Dec) : Int := (ndigits b.coeff : Int) - (ndigits a.coeff : Int) + prec + 1
def divNum (a b : Dec) : Nat := if divShift a b ≥ 0 then a.coeff * 10 ^ (divShift a b).toNat else a.coeff
def divDen (a b : Dec) : Nat := if divShift a b ≥ 0 then b.coeff else b.coeff * 10 ^ (-(divShift a b)).toNat
def divExp (a b : Dec) : Int := a.exp - b.exp - divShift a b

theorem divNum_eq (a b : Dec) : divNum a b = a.coeff * 10 ^ (divShift a b).toNat := by
  unfold divNum
  split
  · rfl
  · rw [Int.toNat_of_nonpos (by omega), Nat.pow_zero, Nat.mul_one]

theorem divDen_eq (a b : Dec) : divDen a b = b.coeff * 10 ^ (-divShift a b).toNat := by
  unfold divDen
  split
  · rw [Int.toNat_of_nonpos (by omega), Nat.pow_zero, Nat.mul_one]
  · rfl

theorem divDen_pos (a b : Dec) (hb : b.coeff ≠ 0) : 0 < divDen a b := by
  rw [divDen_eq]
  exact Nat.mul_pos (by omega) (Nat.pow_pos (by decide))

theorem divPre_eq (a b : Dec) (ha : a.coeff ≠ 0) :
    divPre a b =
      if divNum a b % divDen a b ≠ 0 then
        { neg := a.neg != b.neg, coeff := sticky (divNum a b) (divDen a b), exp := divExp a b }
      else
        { neg := a.neg != b.neg,
          coeff := (stripTo (ndigits (divNum a b / divDen a b)) (divNum a b / divDen a b) (divExp a b) (a.exp - b.exp)).1,
          exp := (stripTo (ndigits (divNum a b / divDen a b)) (divNum a b / divDen a b) (divExp a b) (a.exp - b.exp)).2 } := by
  unfold divPre
  rw [if_neg ha]
  rfl

theorem divPre_inexact (a b : Dec) (ha : a.coeff ≠ 0) (hr : divNum a b % divDen a b ≠ 0) :
    divPre a b = { neg := a.neg != b.neg, coeff := sticky (divNum a b) (divDen a b), exp := divExp a b } := by
  rw [divPre_eq a b ha, if_pos hr]

theorem divPre_rounds_as_quotient (a b : Dec) (ha : a.coeff ≠ 0) (hb : b.coeff ≠ 0)
    (hr : divNum a b % divDen a b ≠ 0) (k : Nat) (hk : 1 ≤ k) :
    roundDiv .halfEven (divPre a b).neg (divPre a b).coeff k = roundRat (divNum a b) (divDen a b * 10 ^ k) := by
  rw [divPre_inexact a b ha hr]
  exact sticky_round _ _ _ k (divDen_pos a b hb) hk hr

theorem div_quot_big (a b : Dec) (ha : a.coeff ≠ 0) (hb : b.coeff ≠ 0) : 10 ^ 28 ≤ divNum a b / divDen a b := by
  rw [Nat.le_div_iff_mul_le (divDen_pos a b hb), divNum_eq, divDen_eq]
  have ha1 := pow_pred_ndigits_le a.coeff (by omega)
  have hb1 := lt_pow_ndigits b.coeff
  have hla := ndigits_pos a.coeff
  -- the shift is chosen so that (digits of a − 1) + s⁺ = digits of b + 28 + s⁻
  have e : 28 + ndigits b.coeff + (-divShift a b).toNat = ndigits a.coeff - 1 + (divShift a b).toNat := by
    unfold divShift prec; omega
  calc 10 ^ 28 * (b.coeff * 10 ^ (-divShift a b).toNat)
      ≤ 10 ^ 28 * (10 ^ ndigits b.coeff * 10 ^ (-divShift a b).toNat) :=
        Nat.mul_le_mul_left _ (Nat.mul_le_mul_right _ (Nat.le_of_lt hb1))
    _ = 10 ^ (ndigits a.coeff - 1) * 10 ^ (divShift a b).toNat := by
        rw [← Nat.pow_add, ← Nat.pow_add, ← Nat.pow_add, ← Nat.add_assoc, e]
    _ ≤ a.coeff * 10 ^ (divShift a b).toNat := Nat.mul_le_mul_right _ ha1

theorem divPre_digits (a b : Dec) (ha : a.coeff ≠ 0) (hb : b.coeff ≠ 0) (hr : divNum a b % divDen a b ≠ 0) :
    29 ≤ ndigits (divPre a b).coeff := by
  rw [divPre_inexact a b ha hr]
  exact (lt_ndigits_iff _ 28 (by decide)).mpr (Nat.le_trans (div_quot_big a b ha hb) (sticky_ge _ _))

theorem div_ok (a b r : Dec) (h : Dec.div a b = .ok r) : b.coeff ≠ 0 ∧ fix (divPre a b) = .ok r := by
  unfold Dec.div at h
  split at h
  · split at h <;> cases h
  · exact ⟨‹_›, h⟩

theorem div_correctly_rounded (a b r : Dec) (ha : a.coeff ≠ 0) (hb : b.coeff ≠ 0)
    (hr : divNum a b % divDen a b ≠ 0) (h : Dec.div a b = .ok r) :
    r.neg = (a.neg != b.neg) ∧ ∃ k : Nat, 1 ≤ k ∧
      ((r.coeff = roundRat (divNum a b) (divDen a b * 10 ^ k) ∧ r.exp = divExp a b + (k : Int) ∧ r.digits ≤ 28) ∨
       (roundRat (divNum a b) (divDen a b * 10 ^ k) = 10 ^ 28 ∧ r.coeff = 10 ^ 27 ∧ r.exp = divExp a b + (k : Int) + 1)) := by
  have h := (div_ok a b r h).2
  have hpre := divPre_inexact a b ha hr
  have hneg : (divPre a b).neg = (a.neg != b.neg) := by rw [hpre]
  have hd := divPre_digits a b ha hb hr
  have hnz : (divPre a b).coeff ≠ 0 := fun h0 => by rw [h0] at hd; exact absurd hd (by decide)
  -- at least 29 digits go in, so `fix` drops `k ≥ 1` of them
  have hk : 1 ≤ fixK (divPre a b) ∧ fixExp (divPre a b) = divExp a b + (fixK (divPre a b) : Nat) := by
    have : (divPre a b).exp = divExp a b := by rw [hpre]
    unfold fixK fixExp
    simp only [prec]
    omega
  have hround := divPre_rounds_as_quotient a b ha hb hr _ hk.1
  rcases fix_cases (divPre a b) r h hnz with ⟨hge, _⟩ | ⟨_, hdig, rfl⟩ | ⟨_, hq, rfl⟩
  · unfold fixExp at hge
    simp only [prec] at hge
    omega
  · exact ⟨hneg, _, hk.1, .inl ⟨hround, hk.2, hdig⟩⟩
  · exact ⟨hneg, _, hk.1, .inr ⟨hround ▸ hq, rfl, by show fixExp (divPre a b) + 1 = _; rw [hk.2]⟩⟩

/-- the form the ℚ statement needs: no `roundRat`, no carry case, no tie clause -/
theorem div_nearest (a b r : Dec) (ha : a.coeff ≠ 0) (hb : b.coeff ≠ 0)
    (hr : divNum a b % divDen a b ≠ 0) (h : Dec.div a b = .ok r) :
    r.neg = (a.neg != b.neg) ∧ ∃ j : Nat, r.exp = divExp a b + j ∧ Nearest (divNum a b) r.coeff (divDen a b * 10 ^ j) := by
  obtain ⟨hs, k, _, hc⟩ := div_correctly_rounded a b r ha hb hr h
  have hn := (roundRat_nearest (divNum a b) (divDen a b * 10 ^ k)
    (Nat.mul_pos (divDen_pos a b hb) (Nat.pow_pos (by decide)))).1
  rcases hc with ⟨hco, he, _⟩ | ⟨hR, hco, he⟩
  · exact ⟨hs, k, he, hco ▸ hn⟩
  · refine ⟨hs, k + 1, by rw [he]; omega, ?_⟩
    rw [hR] at hn
    rw [hco, Nat.pow_succ 10 k, ← Nat.mul_assoc (divDen a b)]
    exact nearest_carry _ (10 ^ 27) _ hn

end Sq.Dec
