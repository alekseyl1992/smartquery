/-
  The parser reads only the kind and the value of a token: a derivation, hence a parse, of one token list is one of every
  token list with the same kinds and values (offsets and line stamps may differ).  The first module that has both `sound` and
  `complete`: `parse_iff` stands here.
-/
import SqLemmas.ParseSound
import SqLemmas.ParseComplete
namespace Sq

/-- what the parser reads of a token -/
def Token.kv (t : Token) : Tk × List Char := (t.ty, t.val)

/-- the token at position `i` of a list gets the offset and the line `σ i`.  By position, not by token: a list with the same
    kinds and values is `ts.mapIdx (restamp σ)` (`restamp_of_kv`), but `ts.map f` for no `f` when `ts` holds one token twice. -/
def restamp (σ : Nat → Nat × Nat) (i : Nat) (t : Token) : Token := { t with pos := (σ i).1, line := (σ i).2 }

theorem restamp_cons (σ : Nat → Nat × Nat) (t : Token) (ts : List Token) :
    (t :: ts).mapIdx (restamp σ) = restamp σ 0 t :: ts.mapIdx (restamp fun i => σ (i + 1)) := List.mapIdx_cons

theorem restamp_append (σ : Nat → Nat × Nat) (ts ts' : List Token) :
    (ts ++ ts').mapIdx (restamp σ) = ts.mapIdx (restamp σ) ++ ts'.mapIdx (restamp fun i => σ (i + ts.length)) :=
  List.mapIdx_append

theorem peekTy_restamp (σ : Nat → Nat × Nat) (ts : List Token) : peekTy (ts.mapIdx (restamp σ)) = peekTy ts := by
  cases ts with
  | nil => rfl
  | cons t r => rw [restamp_cons]; rfl

theorem startsNameRparen_restamp (σ : Nat → Nat × Nat) (ts : List Token) :
    startsNameRparen (ts.mapIdx (restamp σ)) = startsNameRparen ts := by
  match ts with
  | [] => rfl
  | [_] => rfl
  | n :: r :: _ => rw [restamp_cons, restamp_cons]; rfl

/-- every list with the same kinds and values is a restamping: with the stamps it has (the lists are equally long, so the
    `default` of `getD` is never read) -/
theorem restamp_of_kv {ts : List Token} : ∀ {ts' : List Token}, ts'.map Token.kv = ts.map Token.kv →
    ts.mapIdx (restamp fun i => ((ts'[i]?.getD default).pos, (ts'[i]?.getD default).line)) = ts' := by
  induction ts with
  | nil => intro ts' h; cases ts' with | nil => rfl | cons _ _ => cases h
  | cons t ts ih =>
    intro ts' h
    cases ts' with
    | nil => cases h
    | cons t' ts' =>
      obtain ⟨_, _, _, _⟩ := t
      obtain ⟨_, _, _, _⟩ := t'
      simp only [List.map_cons, List.cons.injEq, Token.kv, Prod.mk.injEq] at h
      rw [restamp_cons]
      simp only [List.getElem?_cons_succ]
      rw [ih h.2]
      simp [restamp, h.1]

/-- push `List.mapIdx (restamp σ)` through the token list of a constructor's conclusion, so that the constructor applies to
    the restamped parts -/
macro "map_simp" : tactic => `(tactic| simp only [restamp_append, restamp_cons, List.mapIdx_nil])

theorem RParams.cast {acc ts ts' out} (h : RParams acc ts out) (e : ts = ts') : RParams acc ts' out := e ▸ h

/-- kinds and values of restamped tokens are those of the tokens by `rfl`: a constructor takes its hypotheses as they are -/
theorem m_all :
    RAll (fun m a ts t b nxt => ∀ σ, RExpr m a (ts.mapIdx (restamp σ)) t b nxt)
      (fun ts t la => ∀ σ, RPrim (ts.mapIdx (restamp σ)) t la)
      (fun m a l b ts t bt nxt => ∀ σ, RSpine m a l b (ts.mapIdx (restamp σ)) t bt nxt)
      (fun close ts out => ∀ σ, RArgs close (ts.mapIdx (restamp σ)) out)
      (fun close acc ts out => ∀ σ, RArgsTail close acc (ts.mapIdx (restamp σ)) out)
      (fun acc ts out => ∀ σ, RDict acc (ts.mapIdx (restamp σ)) out)
      (fun acc ts out => ∀ σ, RParams acc (ts.mapIdx (restamp σ)) out)
      (fun ts k plain => ∀ σ, RSub (ts.mapIdx (restamp σ)) k plain) :=
  RAll.induct
    (expr_mk := fun _ _ ihp ihs σ => by map_simp; exact .mk (by rw [peekTy_restamp]; exact ihp σ) (ihs _))
    (prim_atom := fun ha σ => .atom ha)
    (prim_name := fun ht h1 h2 σ => .name ht h1 h2)
    (prim_call0 := fun hn hl hr σ => .call0 hn hl hr)
    (prim_call := fun hn hl _ ih σ => by map_simp; exact .call hn hl (ih _))
    (prim_lam1 := fun hn hl _ ih σ => by map_simp; exact .lam1 hn hl (ih _))
    (prim_paren := fun hl _ hr ih σ => by map_simp; exact .paren hl (ih _) hr)
    (prim_lamN := fun hl _ hc _ hlam _ ih0 ihp ihb σ => by
      map_simp; exact .lamN hl (ih0 _) hc (ihp _) hlam (ihb _))
    (prim_list0 := fun hl hr σ => .list0 hl hr)
    (prim_list := fun hl _ ih σ => by map_simp; exact .list hl (ih _))
    (prim_dict0 := fun hl hr σ => .dict0 hl hr)
    (prim_dict := fun hl _ ih σ => by map_simp; exact .dict hl (ih _))
    (prim_neg := fun hm _ ih σ => by map_simp; exact .neg hm (ih _))
    (prim_not := fun hn _ ih σ => by map_simp; exact .not hn (ih _))
    (spine_nil := fun h _ => .nil h)
    (spine_bin := fun hd hk _ _ ihe ihs σ => by
      map_simp; exact .bin hd hk (by rw [peekTy_restamp]; exact ihe _) (ihs _))
    (spine_notin := fun ho hd hi _ _ ihe ihs σ => by
      map_simp; exact .notin ho hd hi (by rw [peekTy_restamp]; exact ihe _) (ihs _))
    (spine_ifx := fun ho hd _ hel _ _ ihc ihe ihs σ => by
      map_simp; exact .ifx ho hd (ihc _) hel (by rw [peekTy_restamp]; exact ihe _) (ihs _))
    (spine_index := fun ho hd _ _ ihsub ihs σ => by map_simp; exact .index ho hd (ihsub _) (ihs _))
    (spine_dot0 := fun ho hd hn hl hr _ ihs σ => by map_simp; exact .dot0 ho hd hn hl hr (ihs _))
    (spine_dot := fun ho hd hn hl _ _ iha ihs σ => by map_simp; exact .dot ho hd hn hl (iha _) (ihs _))
    (spine_pipe0 := fun ho hd hn hla _ ihs σ => by
      map_simp; exact .pipe0 ho hd hn (by rw [peekTy_restamp]; exact hla) (ihs _))
    (spine_pipe := fun ho hd hn hl _ _ iha ihs σ => by map_simp; exact .pipe ho hd hn hl (iha _) (ihs _))
    (args_mk := fun _ _ ihe iht σ => by map_simp; exact .mk (by rw [peekTy_restamp]; exact ihe σ) (iht _))
    (tail_close := fun hc hne σ => .close hc hne)
    (tail_trailing := fun hcm hc σ => .trailing hcm hc)
    (tail_more := fun hcm hpk _ _ ihe iht σ => by
      map_simp
      exact .more hcm (by rw [peekTy_append, peekTy_restamp, peekTy_restamp, ← peekTy_append]; exact hpk)
        (by rw [peekTy_restamp]; exact ihe _) (iht _))
    (dict_last := fun _ hc _ hr ihk ihv σ => by map_simp; exact .last (ihk σ) hc (ihv _) hr)
    (dict_lastComma := fun _ hc _ hcm hr ihk ihv σ => by map_simp; exact .lastComma (ihk σ) hc (ihv _) hcm hr)
    (dict_more := fun _ hc _ hcm hpk _ ihk ihv ihd σ => by
      map_simp; exact .more (ihk σ) hc (ihv _) hcm (by rw [peekTy_restamp]; exact hpk) (ihd _))
    (params_last := fun hn hr σ => .last hn hr)
    (params_more := fun {_ ts0 _ _ cm} _ _ hs _ hc _ ihe ihp σ => by
      map_simp
      refine .more ?_ (ihe σ) hc (ihp _)
      have := startsNameRparen_restamp σ (ts0 ++ [cm])
      simp only [restamp_append, restamp_cons, List.mapIdx_nil] at this
      rw [this]; exact hs)
    (sub_idx := fun _ hr ihe σ => by map_simp; exact .idx (ihe σ) hr)
    (sub_all := fun hc hr σ => .all hc hr)
    (sub_step := fun h1 h2 _ hr ihe σ => by map_simp; exact .step h1 h2 (ihe _) hr)
    (sub_stop := fun hc _ hr ihe σ => by map_simp; exact .stop hc (ihe _) hr)
    (sub_stopColon := fun hc _ h2 hr ihe σ => by map_simp; exact .stopColon hc (ihe _) h2 hr)
    (sub_start := fun _ hc hr ihe σ => by map_simp; exact .start (ihe σ) hc hr)
    (sub_startColon := fun _ hc h2 hr ihe σ => by map_simp; exact .startColon (ihe σ) hc h2 hr)
    (sub_startStop := fun _ hc _ hr ihe ihe2 σ => by map_simp; exact .startStop (ihe σ) hc (ihe2 _) hr)

theorem mStmt (σ : Nat → Nat × Nat) {ts : List Token} {s : Option Op} {nxt : LA} (h : RStmt ts s nxt) :
    RStmt (ts.mapIdx (restamp σ)) s nxt := by
  cases h with
  | empty he => exact .empty he
  | expr he h => exact .expr he (m_all.expr h σ)
  | assign he hn heq h => map_simp; exact .assign he hn heq (m_all.expr h _)
  | short he hn ho hk h => map_simp; exact .short he hn ho hk (m_all.expr h _)
  | del he hd h hi => map_simp; exact .del he hd (m_all.expr h _) hi
  | setitem he h hi heq hv => map_simp; exact .setitem he (m_all.expr h σ) hi heq (m_all.expr hv _)
  | setop he h hi ho hv => map_simp; exact .setop he (m_all.expr h σ) hi ho (m_all.expr hv _)

theorem mCode {acc : List Op} {ts : List Token} {out : List Op} (h : RCode acc ts out) :
    ∀ σ, RCode acc (ts.mapIdx (restamp σ)) out := by
  induction h with
  | last h => exact fun σ => .last (mStmt σ h)
  | more h hnl _ ih => intro σ; map_simp; exact .more (mStmt σ h) hnl (ih _)

theorem parse_iff (ts : List Token) (out : List Op) : parseTokens ts = .ok (.code out) ↔ RCode [] ts out := by
  constructor
  · intro h
    obtain ⟨out', e, r⟩ := sound h
    injection e with e
    rw [e]; exact r
  · exact complete

/-- token lists with the same kinds and values parse alike -/
theorem parse_reads_kv {ts ts' : List Token} (h : ts'.map Token.kv = ts.map Token.kv) (tree : Op) :
    parseTokens ts' = .ok tree ↔ parseTokens ts = .ok tree := by
  have one : ∀ {ts ts' : List Token}, ts'.map Token.kv = ts.map Token.kv → parseTokens ts = .ok tree →
      parseTokens ts' = .ok tree := fun h hp => by
    obtain ⟨out, rfl, hr⟩ := sound hp
    exact restamp_of_kv h ▸ complete (mCode hr _)
  exact ⟨one h.symm, one h⟩

theorem map_kv (f : Token → Token) (hty : ∀ t, (f t).ty = t.ty) (hval : ∀ t, (f t).val = t.val) (ts : List Token) :
    (ts.map f).map Token.kv = ts.map Token.kv := by
  simp [Token.kv, hty, hval]

theorem mExpr (f : Token → Token) (hty : ∀ t, (f t).ty = t.ty) (hval : ∀ t, (f t).val = t.val) :
    ∀ {m a ts t b nxt}, RExpr m a ts t b nxt → RExpr m a (ts.map f) t b nxt :=
  fun h => restamp_of_kv (map_kv f hty hval _) ▸ m_all.expr h _

theorem mPrim (f : Token → Token) (hty : ∀ t, (f t).ty = t.ty) (hval : ∀ t, (f t).val = t.val) :
    ∀ {ts t la}, RPrim ts t la → RPrim (ts.map f) t la :=
  fun h => restamp_of_kv (map_kv f hty hval _) ▸ m_all.prim h _

theorem mSpine (f : Token → Token) (hty : ∀ t, (f t).ty = t.ty) (hval : ∀ t, (f t).val = t.val) :
    ∀ {m a l b ts t bt nxt}, RSpine m a l b ts t bt nxt → RSpine m a l b (ts.map f) t bt nxt :=
  fun h => restamp_of_kv (map_kv f hty hval _) ▸ m_all.spine h _

theorem mArgs (f : Token → Token) (hty : ∀ t, (f t).ty = t.ty) (hval : ∀ t, (f t).val = t.val) :
    ∀ {close ts out}, RArgs close ts out → RArgs close (ts.map f) out :=
  fun h => restamp_of_kv (map_kv f hty hval _) ▸ m_all.args h _

theorem mArgsTail (f : Token → Token) (hty : ∀ t, (f t).ty = t.ty) (hval : ∀ t, (f t).val = t.val) :
    ∀ {close acc ts out}, RArgsTail close acc ts out → RArgsTail close acc (ts.map f) out :=
  fun h => restamp_of_kv (map_kv f hty hval _) ▸ m_all.tail h _

theorem mDict (f : Token → Token) (hty : ∀ t, (f t).ty = t.ty) (hval : ∀ t, (f t).val = t.val) :
    ∀ {acc ts out}, RDict acc ts out → RDict acc (ts.map f) out :=
  fun h => restamp_of_kv (map_kv f hty hval _) ▸ m_all.dict h _

theorem mParams (f : Token → Token) (hty : ∀ t, (f t).ty = t.ty) (hval : ∀ t, (f t).val = t.val) :
    ∀ {acc ts out}, RParams acc ts out → RParams acc (ts.map f) out :=
  fun h => restamp_of_kv (map_kv f hty hval _) ▸ m_all.params h _

theorem mSub (f : Token → Token) (hty : ∀ t, (f t).ty = t.ty) (hval : ∀ t, (f t).val = t.val) :
    ∀ {ts k plain}, RSub ts k plain → RSub (ts.map f) k plain :=
  fun h => restamp_of_kv (map_kv f hty hval _) ▸ m_all.sub h _

theorem parse_reads_kind_and_value (f : Token → Token) (hty : ∀ t, (f t).ty = t.ty) (hval : ∀ t, (f t).val = t.val)
    (ts : List Token) (tree : Op) (h : parseTokens ts = .ok tree) : parseTokens (ts.map f) = .ok tree :=
  (parse_reads_kv (map_kv f hty hval ts) tree).mpr h

end Sq
