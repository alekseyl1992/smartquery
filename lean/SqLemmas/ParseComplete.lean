/-
  Completeness of the parser model: whatever `ParseSpec` says reads as a tree, the parser parses
  back to exactly that tree, for every continuation with the recorded look-ahead and every fuel that fits the tokens.
-/
import SqLemmas.ParseInduct
namespace Sq

theorem pPrefix_atom (f : Nat) (t : Token) (e : Op) (tl : List Token) (ha : atomOf t = some e) :
    pPrefix (f + 1) (t :: tl) = .ok (e, tl) := by
  rw [pPrefix]
  rcases atomOf_inv ha with ⟨ht, d, hd, rfl⟩ | ⟨ht, rfl⟩ | ⟨ht, rfl⟩ | ⟨ht, rfl⟩ | ⟨ht, rfl⟩
  · simp [ht, reservedUnused, hd]
  all_goals simp [ht, reservedUnused]

theorem pLoop_stops {f m : Nat} {a : Assoc} {l : Op} {b : Bool} {tl : List Token} (hs : stops m a (peekTy tl)) :
    pLoop (f + 1) m a l b tl = .ok ((l, b), tl) := by
  cases tl with
  | nil => rw [pLoop]
  | cons t r =>
    simp only [peekTy_cons, stops] at hs
    rw [pLoop]
    simp [hs]

theorem pLoop_bin {f m : Nat} {a : Assoc} {l : Op} {b : Bool} {o : Token} {r ts' : List Token} {lv : Nat} {la : Assoc}
    {k : BinK} {rhs : Op} {br : Bool}
    (hd : decide' m a o.ty = .take lv la) (hk : binKind o.ty = some k) (he : pExpr f lv la r = .ok ((rhs, br), ts')) :
    pLoop (f + 1) m a l b (o :: r) = pLoop f m a (.bin k l rhs) false ts' := by
  rw [pLoop]
  simp only [hd, hk, he]

theorem pLoop_notin {f m : Nat} {a : Assoc} {l : Op} {b : Bool} {o i : Token} {r : List Token} {lv : Nat} {la : Assoc}
    {rhs : Op} {br : Bool} {ts' : List Token}
    (ho : o.ty = .NOT) (hd : decide' m a .NOT = .take lv la) (hi : i.ty = .IN)
    (he : pExpr f inLevel .nonassoc r = .ok ((rhs, br), ts')) :
    pLoop (f + 1) m a l b (o :: i :: r) = pLoop f m a (.bin .notin l rhs) false ts' := by
  rw [pLoop]
  simp [ho, hd, binKind, eat, hi, he]

theorem pLoop_ifx {f m : Nat} {a : Assoc} {l : Op} {b : Bool} {o el : Token} {r r3 ts' : List Token} {lv : Nat} {la : Assoc}
    {c e2 : Op} {bc be : Bool}
    (ho : o.ty = .IF) (hd : decide' m a .IF = .take lv la)
    (hc : pExpr f 0 .right r = .ok ((c, bc), el :: r3)) (hel : el.ty = .ELSE)
    (he : pExpr f 0 .right r3 = .ok ((e2, be), ts')) :
    pLoop (f + 1) m a l b (o :: r) = pLoop f m a (.ifx c l e2) false ts' := by
  rw [pLoop]
  simp [ho, hd, binKind, hc, eat, hel, he]

theorem pLoop_index {f m : Nat} {a : Assoc} {l : Op} {b : Bool} {o : Token} {r ts' : List Token} {lv : Nat} {la : Assoc}
    {k : Op} {plain : Bool}
    (ho : o.ty = .LBRACKET) (hd : decide' m a .LBRACKET = .take lv la)
    (hs : pSubscript f r = .ok ((k, plain), ts')) :
    pLoop (f + 1) m a l b (o :: r) = pLoop f m a (getitem l k) plain ts' := by
  rw [pLoop]
  simp [ho, hd, binKind, hs, getitem]

theorem pLoop_dot0 {f m : Nat} {a : Assoc} {l : Op} {b : Bool} {o n lp rp : Token} {r : List Token} {lv : Nat} {la : Assoc}
    (ho : o.ty = .DOT) (hd : decide' m a .DOT = .take lv la) (hn : n.ty = .NAME) (hl : lp.ty = .LPAREN) (hr : rp.ty = .RPAREN) :
    pLoop (f + 1) m a l b (o :: n :: lp :: rp :: r) = pLoop f m a (.call n.val [l]) false r := by
  rw [pLoop]
  simp [ho, hd, binKind, eat, hn, hl, peekTy, hr]

theorem pLoop_dot {f m : Nat} {a : Assoc} {l : Op} {b : Bool} {o n lp : Token} {r ts' : List Token} {lv : Nat} {la : Assoc}
    {args : List Op}
    (ho : o.ty = .DOT) (hd : decide' m a .DOT = .take lv la) (hn : n.ty = .NAME) (hl : lp.ty = .LPAREN)
    (hne : peekTy r ≠ some .RPAREN) (ha : pArgs f .RPAREN r = .ok (args, ts')) :
    pLoop (f + 1) m a l b (o :: n :: lp :: r) = pLoop f m a (.call n.val (l :: args)) false ts' := by
  rw [pLoop]
  simp [ho, hd, binKind, eat, hn, hl, hne, ha]

theorem pLoop_pipe0 {f m : Nat} {a : Assoc} {l : Op} {b : Bool} {o n : Token} {r : List Token} {lv : Nat} {la : Assoc}
    (ho : o.ty = .PIPE) (hd : decide' m a .PIPE = .take lv la) (hn : n.ty = .NAME) (hne : peekTy r ≠ some .LPAREN) :
    pLoop (f + 1) m a l b (o :: n :: r) = pLoop f m a (.call n.val [l]) false r := by
  rw [pLoop]
  simp [ho, hd, binKind, eat, hn, hne]

theorem pLoop_pipe {f m : Nat} {a : Assoc} {l : Op} {b : Bool} {o n lp : Token} {r ts' : List Token} {lv : Nat} {la : Assoc}
    {args : List Op}
    (ho : o.ty = .PIPE) (hd : decide' m a .PIPE = .take lv la) (hn : n.ty = .NAME) (hl : lp.ty = .LPAREN)
    (ha : pArgs f .RPAREN r = .ok (args, ts')) :
    pLoop (f + 1) m a l b (o :: n :: lp :: r) = pLoop f m a (.call n.val (l :: args)) false ts' := by
  rw [pLoop]
  simp [ho, hd, binKind, eat, hn, peekTy, hl, ha]

/-- two units of fuel for each token and one to stop.  Below, the name says which part of the list is kept, the digit how
    many units are given up -/
def Fits (ts : List Token) (f : Nat) : Prop := 2 * ts.length + 1 ≤ f

namespace Fits
variable {x : Token} {a b : List Token} {f : Nat}

theorem succ (h : Fits a f) : ∃ g, f = g + 1 := ⟨f - 1, by unfold Fits at h; omega⟩

theorem drop0 (h : Fits (x :: a) f) : Fits a f := by
  unfold Fits at *; simp only [List.length_cons] at h; omega

theorem drop1 (h : Fits (x :: a) (f + 1)) : Fits a f := by
  unfold Fits at *; simp only [List.length_cons] at h; omega

theorem drop2 (h : Fits (x :: a) (f + 2)) : Fits a f := by
  unfold Fits at *; simp only [List.length_cons] at h; omega

theorem left (h : Fits (a ++ b) f) : Fits a f := by
  unfold Fits at *; simp only [List.length_append] at h; omega

theorem right (h : Fits (a ++ b) f) : Fits b f := by
  unfold Fits at *; simp only [List.length_append] at h; omega

theorem left1 (h : Fits (a ++ x :: b) (f + 1)) : Fits a f := by
  unfold Fits at *; simp only [List.length_append, List.length_cons] at h; omega

end Fits

/-- a suffix `o :: sfx` of the operand: one turn of the loop (`hstep`, the equation of its branch), then the rest of the spine -/
theorem cSpine_step {m : Nat} {a : Assoc} {l l' t : Op} {b b' bt : Bool} {nxt : LA} {o : Token} {sfx rest : List Token}
    (hstep : ∀ f, Fits (o :: sfx) (f + 1) → ∀ tl, peekTy tl = (peekTy rest).or nxt →
      pLoop (f + 1) m a l b (o :: sfx ++ tl) = pLoop f m a l' b' tl)
    (ihs : ∀ f, Fits rest f → ∀ tl, peekTy tl = nxt → pLoop f m a l' b' (rest ++ tl) = .ok ((t, bt), tl)) :
    ∀ f, Fits (o :: sfx ++ rest) f → ∀ tl, peekTy tl = nxt →
      pLoop f m a l b (o :: sfx ++ rest ++ tl) = .ok ((t, bt), tl) := by
  intro f hf tl htl
  obtain ⟨f, rfl⟩ := hf.succ
  rw [List.append_assoc, hstep f hf.left _ (peekTy_append_la _ htl)]
  exact ihs f (Fits.drop1 (x := o) hf).right tl htl

/-- two units per token suffice: a primary's first token costs `pExpr` and `pPrefix`, every step of the loop costs one.
    `pPrefix` is entered from `pExpr` only, with one unit spent: it is stated at `f + 1` for a fuel `f + 2` that fits -/
theorem c_all : RAll
    (fun m a ts t b nxt => ∀ f, Fits ts f → ∀ tl, peekTy tl = nxt → pExpr f m a (ts ++ tl) = .ok ((t, b), tl))
    (fun ts t la => ∀ f, Fits ts (f + 2) → ∀ tl, peekTy tl = la → pPrefix (f + 1) (ts ++ tl) = .ok (t, tl))
    (fun m a l b ts t bt nxt => ∀ f, Fits ts f → ∀ tl, peekTy tl = nxt → pLoop f m a l b (ts ++ tl) = .ok ((t, bt), tl))
    (fun close ts args => ∀ f, Fits ts f → ∀ tl, pArgs f close (ts ++ tl) = .ok (args, tl))
    (fun close acc ts out => ∀ f, Fits ts f → ∀ tl, pArgsTail f close acc (ts ++ tl) = .ok (out, tl))
    (fun acc ts out => ∀ f, Fits ts f → ∀ tl, pDictItems f acc (ts ++ tl) = .ok (out, tl))
    (fun acc ts out => ∀ f, Fits ts f → ∀ tl, pParams f acc (ts ++ tl) = .ok (out, tl))
    (fun ts k plain => ∀ f, Fits ts f → ∀ tl, pSubscript f (ts ++ tl) = .ok ((k, plain), tl)) :=
  RAll.induct
    (expr_mk := fun hp hs ihp ihs f hf tl htl => by
      obtain ⟨hd, r, rfl, _⟩ := rprim_head hp
      obtain ⟨g, rfl⟩ := hf.succ
      obtain ⟨k, rfl⟩ := hf.left.drop1.succ
      rw [List.append_assoc, pExpr, ihp k hf.left _ (peekTy_append_la _ htl)]
      exact ihs (k + 1) (Fits.drop1 (x := hd) hf).right tl htl)
    (prim_atom := fun ha f _ tl _ => by
      rw [List.singleton_append]
      exact pPrefix_atom f _ _ tl ha)
    (prim_name := fun ht h1 h2 f _ tl htl => by
      rw [List.singleton_append, pPrefix]
      subst htl
      simp [ht, reservedUnused, h1, h2])
    (prim_call0 := fun hn hl hr f _ tl _ => by
      simp only [List.cons_append, List.nil_append]
      rw [pPrefix]
      simp [hn, reservedUnused, peekTy, hl, hr])
    (prim_call := fun hn hl ha iha f hf tl _ => by
      have hne := rargs_peek ha tl .RPAREN rfl
      simp only [List.cons_append]
      rw [pPrefix]
      simp [hn, reservedUnused, peekTy_cons, hl, hne, iha f hf.drop2.drop0])
    (prim_lam1 := fun hn hl _ ihe f hf tl htl => by
      simp only [List.cons_append]
      rw [pPrefix]
      simp [hn, reservedUnused, peekTy_cons, hl, ihe f hf.drop2.drop0 tl htl])
    (prim_paren := fun hl _ hr ihe f hf tl _ => by
      simp only [List.cons_append, List.append_assoc, List.nil_append] at hf ⊢
      rw [pPrefix]
      simp [hl, reservedUnused, ihe f hf.drop2.left _ (peekTy_cons_of hr _), peekTy_cons, hr])
    (prim_lamN := fun hl _ hc _ hlam _ ih0 ihp ihb f hf tl htl => by
      simp only [List.cons_append, List.append_assoc] at hf ⊢
      have e0 := fun x => ih0 f hf.drop2.left _ (peekTy_cons_of hc x)
      have ep := ihp f hf.drop2.right.drop0.left
      have eb := ihb f hf.drop2.right.drop0.right.drop0 tl htl
      have hcr : ¬ Tk.COMMA = Tk.RPAREN := by decide
      rw [pPrefix]
      simp [hl, reservedUnused, e0, peekTy_cons, hcr, eat, hc, ep, hlam, eb])
    (prim_list0 := fun hl hr f _ tl _ => by
      simp only [List.cons_append, List.nil_append]
      rw [pPrefix]
      simp [hl, reservedUnused, peekTy_cons, hr])
    (prim_list := fun hl ha iha f hf tl _ => by
      have hne := rargs_peek ha tl .RBRACKET rfl
      simp only [List.cons_append]
      rw [pPrefix]
      simp [hl, reservedUnused, hne, iha f hf.drop2])
    (prim_dict0 := fun hl hr f _ tl _ => by
      simp only [List.cons_append, List.nil_append]
      rw [pPrefix]
      simp [hl, reservedUnused, peekTy_cons, hr])
    (prim_dict := fun hl hd ihd f hf tl _ => by
      have hne := rdict_peek hd tl .RBRACE rfl
      simp only [List.cons_append]
      rw [pPrefix]
      simp [hl, reservedUnused, hne, ihd f hf.drop2])
    (prim_neg := fun hm _ ihe f hf tl htl => by
      simp only [List.cons_append]
      rw [pPrefix]
      simp [hm, reservedUnused, ihe f hf.drop2 tl htl])
    (prim_not := fun hn _ ihe f hf tl htl => by
      simp only [List.cons_append]
      rw [pPrefix]
      simp [hn, reservedUnused, ihe f hf.drop2 tl htl])
    (spine_nil := fun hstop f hf tl htl => by
      obtain ⟨f, rfl⟩ := hf.succ
      rw [List.nil_append]
      exact pLoop_stops (htl ▸ hstop))
    (spine_bin := fun hd hk _ _ ihe ihs =>
      cSpine_step (fun f hf tl htl => pLoop_bin hd hk (ihe f hf.drop1 tl htl)) ihs)
    (spine_notin := fun ho hd hi _ _ ihe ihs =>
      cSpine_step (fun f hf tl htl => pLoop_notin ho hd hi (ihe f hf.drop1.drop0 tl htl)) ihs)
    (spine_ifx := fun ho hd _ hel _ _ ihc ihe ihs => cSpine_step (ihs := ihs) fun f hf tl htl => by
      -- unification finds the suffix as `tsc.append (el :: tse)`
      simp only [List.append_eq, List.cons_append, List.append_assoc]
      exact pLoop_ifx ho hd (ihc f hf.drop1.left _ (peekTy_cons_of hel _)) hel (ihe f hf.drop1.right.drop0 tl htl))
    (spine_index := fun ho hd _ _ ihsub ihs =>
      cSpine_step (fun f hf tl _ => pLoop_index ho hd (ihsub f hf.drop1 tl)) ihs)
    (spine_dot0 := fun ho hd hn hl hr _ ihs =>
      cSpine_step (sfx := [_, _, _]) (fun _ _ _ _ => pLoop_dot0 ho hd hn hl hr) ihs)
    (spine_dot := fun ho hd hn hl ha _ iha ihs =>
      cSpine_step (fun f hf tl _ =>
        pLoop_dot ho hd hn hl (rargs_peek ha tl .RPAREN rfl) (iha f hf.drop1.drop0.drop0 tl)) ihs)
    (spine_pipe0 := fun ho hd hn hnl _ ihs =>
      cSpine_step (sfx := [_]) (fun _ _ _ htl => pLoop_pipe0 ho hd hn (htl ▸ hnl)) ihs)
    (spine_pipe := fun ho hd hn hl _ _ iha ihs =>
      cSpine_step (fun f hf tl _ => pLoop_pipe ho hd hn hl (iha f hf.drop1.drop0.drop0 tl)) ihs)
    (args_mk := fun he ht ihe iht f hf tl => by
      obtain ⟨hd, r, rfl, _⟩ := rexpr_head he
      obtain ⟨c, r', rfl⟩ := List.exists_cons_of_ne_nil (rargsTail_ne ht)
      obtain ⟨f, rfl⟩ := hf.succ
      rw [List.append_assoc, pArgs, ihe f hf.left1 (c :: r' ++ tl) rfl]
      exact iht f (Fits.drop1 (x := hd) hf).right tl)
    (tail_close := fun hc hne f hf tl => by
      obtain ⟨f, rfl⟩ := hf.succ
      rw [List.singleton_append, pArgsTail]
      subst hc
      simp [hne])
    (tail_trailing := fun hcm hc f hf tl => by
      obtain ⟨f, rfl⟩ := hf.succ
      simp only [List.cons_append, List.nil_append]
      rw [pArgsTail]
      simp [hcm, peekTy_cons, hc])
    (tail_more := fun {close} _ _ ts0 _ _ rest _ hcm hne he ht ihe iht f hf tl => by
      obtain ⟨f, rfl⟩ := hf.succ
      have hne' : peekTy (ts0 ++ (rest ++ tl)) ≠ some close := by
        obtain ⟨hd, r, e, _⟩ := rexpr_head he
        subst e
        simpa [peekTy_cons] using hne
      simp only [List.cons_append, List.append_assoc] at hf ⊢
      rw [pArgsTail]
      simp only [hcm, if_true, hne', if_false, ihe f hf.drop1.left _ (peekTy_append_ne _ _ (rargsTail_ne ht))]
      exact iht f hf.drop1.right tl)
    (dict_last := fun _ hc _ hr ihk ihv f hf tl => by
      obtain ⟨f, rfl⟩ := hf.succ
      simp only [List.cons_append, List.append_assoc, List.nil_append] at hf ⊢
      have ek := fun x => ihk f hf.left1 _ (peekTy_cons_of hc x)
      have ev := fun x => ihv f hf.right.drop1.left _ (peekTy_cons_of hr x)
      rw [pDictItems]
      simp [ek, eat, hc, ev, hr])
    (dict_lastComma := fun _ hc _ hcm hr ihk ihv f hf tl => by
      obtain ⟨f, rfl⟩ := hf.succ
      have hnr : ¬ Tk.COMMA = Tk.RBRACE := by decide
      simp only [List.cons_append, List.append_assoc, List.nil_append] at hf ⊢
      have ek := fun x => ihk f hf.left1 _ (peekTy_cons_of hc x)
      have ev := fun x => ihv f hf.right.drop1.left _ (peekTy_cons_of hcm x)
      rw [pDictItems]
      simp [ek, eat, hc, ev, hnr, hcm, peekTy_cons, hr])
    (dict_more := fun _ hc _ hcm _ hd ihk ihv ihd f hf tl => by
      obtain ⟨f, rfl⟩ := hf.succ
      have hnr : ¬ Tk.COMMA = Tk.RBRACE := by decide
      simp only [List.cons_append, List.append_assoc] at hf ⊢
      rw [pDictItems]
      simp only [ihk f hf.left1 _ (peekTy_cons_of hc _), eat, hc, if_true,
        ihv f hf.right.drop1.left _ (peekTy_cons_of hcm _), hnr, hcm, if_false, if_true, rdict_peek hd tl .RBRACE rfl]
      exact ihd f hf.right.drop1.right.drop0 tl)
    (params_last := fun hn hr f hf tl => by
      obtain ⟨f, rfl⟩ := hf.succ
      simp only [List.cons_append, List.nil_append]
      rw [pParams]
      simp [hn, hr])
    (params_more := fun {_} ts0 _ _ cm rest _ hnot he hcm _ ihe ihp f hf tl => by
      obtain ⟨f, rfl⟩ := hf.succ
      have hs : startsNameRparen (ts0 ++ (cm :: (rest ++ tl))) = false := by
        obtain ⟨hd, r, e, _⟩ := rexpr_head he
        subst e
        rw [← hnot]
        cases r <;> rfl
      simp only [List.cons_append, List.append_assoc] at hf ⊢
      rw [pParams_more f _ _ hs, ihe f hf.left1 _ (peekTy_cons_of hcm _)]
      simp only [eat, hcm, if_true]
      exact ihp f hf.right.drop1 tl)
    (sub_idx := fun he hr ihe f hf tl => by
      obtain ⟨f, rfl⟩ := hf.succ
      have hnc := fun x => rexpr_peek he x .COLON rfl
      simp only [List.append_assoc, List.cons_append, List.nil_append]
      rw [pSubscript]
      simp [hnc, ihe f hf.left1 _ (peekTy_cons_of hr _), peekTy_cons, hr])
    (sub_all := fun hc hr f hf tl => by
      obtain ⟨f, rfl⟩ := hf.succ
      simp only [List.cons_append, List.nil_append]
      rw [pSubscript]
      simp [peekTy_cons, hc, hr])
    (sub_step := fun h1c h2c _ hr ihe f hf tl => by
      obtain ⟨f, rfl⟩ := hf.succ
      have hn : ¬ Tk.COLON = Tk.RBRACKET := by decide
      simp only [List.append_assoc, List.cons_append, List.nil_append] at hf ⊢
      rw [pSubscript]
      simp [peekTy_cons, h1c, h2c, hn, ihe f hf.drop1.drop0.left _ (peekTy_cons_of hr _), eat, hr])
    (sub_stop := fun hc he hr ihe f hf tl => by
      obtain ⟨f, rfl⟩ := hf.succ
      have hn1 := fun x => rexpr_peek he x .RBRACKET rfl
      have hn2 := fun x => rexpr_peek he x .COLON rfl
      have hn : ¬ Tk.RBRACKET = Tk.COLON := by decide
      simp only [List.append_assoc, List.cons_append, List.nil_append] at hf ⊢
      rw [pSubscript]
      simp [peekTy_cons, hc, hn1, hn2, ihe f hf.drop1.left _ (peekTy_cons_of hr _), hn, eat, hr])
    (sub_stopColon := fun hc he h2c hr ihe f hf tl => by
      obtain ⟨f, rfl⟩ := hf.succ
      have hn1 := fun x => rexpr_peek he x .RBRACKET rfl
      have hn2 := fun x => rexpr_peek he x .COLON rfl
      simp only [List.append_assoc, List.cons_append, List.nil_append] at hf ⊢
      rw [pSubscript]
      simp [peekTy_cons, hc, hn1, hn2, ihe f hf.drop1.left _ (peekTy_cons_of h2c _), h2c, eat, hr])
    (sub_start := fun he hc hr ihe f hf tl => by
      obtain ⟨f, rfl⟩ := hf.succ
      have hnc := fun x => rexpr_peek he x .COLON rfl
      have hn : ¬ Tk.COLON = Tk.RBRACKET := by decide
      simp only [List.append_assoc, List.cons_append, List.nil_append]
      rw [pSubscript]
      simp [hnc, ihe f hf.left1 _ (peekTy_cons_of hc _), peekTy_cons, hn, eat, hc, hr])
    (sub_startColon := fun he hc h2c hr ihe f hf tl => by
      obtain ⟨f, rfl⟩ := hf.succ
      have hnc := fun x => rexpr_peek he x .COLON rfl
      have hn : ¬ Tk.COLON = Tk.RBRACKET := by decide
      simp only [List.append_assoc, List.cons_append, List.nil_append]
      rw [pSubscript]
      simp [hnc, ihe f hf.left1 _ (peekTy_cons_of hc _), peekTy_cons, hn, eat, hc, h2c, hr])
    (sub_startStop := fun he hc he2 hr ihe ihe2 f hf tl => by
      obtain ⟨f, rfl⟩ := hf.succ
      have hnc := fun x => rexpr_peek he x .COLON rfl
      have hm1 := fun x => rexpr_peek he2 x .RBRACKET rfl
      have hm2 := fun x => rexpr_peek he2 x .COLON rfl
      have hn : ¬ Tk.COLON = Tk.RBRACKET := by decide
      simp only [List.append_assoc, List.cons_append, List.nil_append] at hf ⊢
      have e1 := fun x => ihe f hf.left1 _ (peekTy_cons_of hc x)
      have e2 := fun x => ihe2 f hf.right.drop1.left _ (peekTy_cons_of hr x)
      rw [pSubscript]
      simp [hnc, e1, peekTy_cons, hn, eat, hc, hm1, hm2, e2, hr])

/-- the form the proofs below use; the `∃ n` of the other members says the same with `2 * ts.length + 1` for `n` -/
theorem cExpr {m a ts t b nxt} (h : RExpr m a ts t b nxt) :
    ∀ f, Fits ts f → ∀ tl, peekTy tl = nxt → pExpr f m a (ts ++ tl) = .ok ((t, b), tl) := c_all.expr h

theorem cSpine : ∀ {m a l b ts t bt nxt}, RSpine m a l b ts t bt nxt →
    ∃ n, n ≤ 2 * ts.length + 1 ∧ ∀ f, n ≤ f → ∀ tl, peekTy tl = nxt → pLoop f m a l b (ts ++ tl) = .ok ((t, bt), tl) :=
  fun h => ⟨_, Nat.le_refl _, c_all.spine h⟩

theorem cArgs : ∀ {close ts args}, RArgs close ts args →
    ∃ n, n ≤ 2 * ts.length + 1 ∧ ∀ f, n ≤ f → ∀ tl, pArgs f close (ts ++ tl) = .ok (args, tl) :=
  fun h => ⟨_, Nat.le_refl _, c_all.args h⟩

theorem cArgsTail : ∀ {close acc ts out}, RArgsTail close acc ts out →
    ∃ n, n ≤ 2 * ts.length + 1 ∧ ∀ f, n ≤ f → ∀ tl, pArgsTail f close acc (ts ++ tl) = .ok (out, tl) :=
  fun h => ⟨_, Nat.le_refl _, c_all.tail h⟩

theorem cDict : ∀ {acc ts out}, RDict acc ts out →
    ∃ n, n ≤ 2 * ts.length + 1 ∧ ∀ f, n ≤ f → ∀ tl, pDictItems f acc (ts ++ tl) = .ok (out, tl) :=
  fun h => ⟨_, Nat.le_refl _, c_all.dict h⟩

theorem cParams : ∀ {acc ts out}, RParams acc ts out →
    ∃ n, n ≤ 2 * ts.length + 1 ∧ ∀ f, n ≤ f → ∀ tl, pParams f acc (ts ++ tl) = .ok (out, tl) :=
  fun h => ⟨_, Nat.le_refl _, c_all.params h⟩

theorem cSub : ∀ {ts k plain}, RSub ts k plain →
    ∃ n, n ≤ 2 * ts.length + 1 ∧ ∀ f, n ≤ f → ∀ tl, pSubscript f (ts ++ tl) = .ok ((k, plain), tl) :=
  fun h => ⟨_, Nat.le_refl _, c_all.sub h⟩

theorem newline_stops (m : Nat) (a : Assoc) : decide' m a .NEWLINE = .stop := rfl

/-- the look-aheads at which every operator loop stops and which start neither a call nor a lambda -/
def closer : LA → Prop
  | none => True
  | some ty => (∀ m a, decide' m a ty = .stop) ∧ ty ≠ .LPAREN ∧ ty ≠ .LAMBDA

theorem closer.stops {la : LA} (h : closer la) (m : Nat) (a : Assoc) : stops m a la := by
  cases la with
  | none => trivial
  | some ty => exact h.1 m a

theorem closer.ne {la : LA} (h : closer la) {ty : Tk} (hty : ty = .LPAREN ∨ ty = .LAMBDA) : la ≠ some ty := by
  rintro rfl
  rcases hty with e | e
  · exact h.2.1 e
  · exact h.2.2 e

theorem closer_none : closer none := trivial
theorem closer_newline : closer (some .NEWLINE) := ⟨fun _ _ => rfl, by decide, by decide⟩
theorem closer_comma : closer (some .COMMA) := ⟨fun _ _ => rfl, by decide, by decide⟩
theorem closer_rparen : closer (some .RPAREN) := ⟨fun _ _ => rfl, by decide, by decide⟩
theorem closer_rbracket : closer (some .RBRACKET) := ⟨fun _ _ => rfl, by decide, by decide⟩
theorem closer_rbrace : closer (some .RBRACE) := ⟨fun _ _ => rfl, by decide, by decide⟩
theorem closer_colon : closer (some .COLON) := ⟨fun _ _ => rfl, by decide, by decide⟩
theorem closer_assign : closer (some .ASSIGN) := ⟨fun _ _ => rfl, by decide, by decide⟩
theorem closer_shortOp : closer (some .SHORT_OP) := ⟨fun _ _ => rfl, by decide, by decide⟩

theorem closer_stmtEnd {nxt : LA} (h : stmtEnd nxt) : closer nxt := by
  rcases h with h | h <;> rw [h]
  · exact closer_none
  · exact closer_newline

/-- a name before a closer is read as the bare name -/
theorem pExpr_name_closer (f m : Nat) (a : Assoc) {n : Token} {r : List Token} (hn : n.ty = .NAME)
    (hc : closer (peekTy r)) : pExpr (f + 2) m a (n :: r) = .ok ((.name n.val, false), r) := by
  rw [pExpr, pPrefix]
  simp only [hn, reservedUnused, hc.ne (.inl rfl), hc.ne (.inr rfl), if_false]
  exact pLoop_stops (hc.stops m a)

/-- a NAME at the head of `ts ++ tl` is not followed by the closer `ty`, unless (`hn`) the expression is the bare name and
    the look-ahead is `ty`: the parser reads such a list as the bare name, and it reads `ts` as `t` -/
theorem rexpr_name_second {m : Nat} {a : Assoc} {ts : List Token} {t : Op} {b : Bool} {nxt : LA}
    (h : RExpr m a ts t b nxt) {tl : List Token} (htl : peekTy tl = nxt) {ty : Tk} (hc : closer (some ty))
    (hn : nxt ≠ some ty ∨ b = true) {n : Token} {r : List Token} (e : ts ++ tl = n :: r) (hname : n.ty = .NAME) :
    peekTy r ≠ some ty := by
  intro hp
  have e1 := cExpr h _ (Nat.le_add_right _ 2) tl htl
  rw [e, pExpr_name_closer _ m a hname (hp ▸ hc)] at e1
  injection e1 with e1
  injection e1 with e1 e2
  injection e1 with _ e3
  subst e2 e3
  rcases hn with hn | hn
  · exact hn (htl ▸ hp)
  · cases hn

/-- none of the forms `pStatement` tests for first; `hn` excludes the bare name followed by `=` / an augmented assignment -/
theorem stmt_head {ts : List Token} {e : Op} {b : Bool} {nxt : LA} (he : RExpr 0 .right ts e b nxt) (tl : List Token)
    (htl : peekTy tl = nxt) (hn : (nxt ≠ some .ASSIGN ∧ nxt ≠ some .SHORT_OP) ∨ b = true) :
    ∃ hd r, ts ++ tl = hd :: r ∧ hd.ty ≠ .NEWLINE ∧ hd.ty ≠ .DEL ∧
      ¬ (hd.ty = .NAME ∧ peekTy r = some .ASSIGN) ∧ ¬ (hd.ty = .NAME ∧ peekTy r = some .SHORT_OP) := by
  obtain ⟨hd, r, hts, hst⟩ := rexpr_head he
  have hcons : ts ++ tl = hd :: (r ++ tl) := by rw [hts]; rfl
  refine ⟨hd, r ++ tl, hcons, fun hc => ?_, fun hc => ?_, fun hc => ?_, fun hc => ?_⟩
  · rw [hc] at hst; cases hst
  · rw [hc] at hst; cases hst
  · exact rexpr_name_second he htl closer_assign (hn.imp_left (·.1)) hcons hc.1 hc.2
  · exact rexpr_name_second he htl closer_shortOp (hn.imp_left (·.2)) hcons hc.1 hc.2

theorem stmtEnd_head {nxt : LA} (hend : stmtEnd nxt) {o : Token} {r : List Token} (htl : peekTy (o :: r) = nxt) :
    o.ty = .NEWLINE := by
  rw [peekTy_cons] at htl
  rcases hend with h | h
  · rw [h] at htl; cases htl
  · rw [h] at htl; injection htl

theorem cStmt {ts : List Token} {s : Option Op} {nxt : LA} (h : RStmt ts s nxt) :
    ∀ f, Fits ts f → ∀ tl, peekTy tl = nxt → pStatement f (ts ++ tl) = .ok (s, tl) := by
  intro f hf tl htl
  cases h with
  | empty hend =>
    rw [List.nil_append]
    cases tl with
    | nil => rfl
    | cons o r =>
      have ho : o.ty = .NEWLINE := stmtEnd_head hend htl
      unfold pStatement
      simp only [ho, if_true]
  | expr hend he =>
    rename_i e b
    have e1 := cExpr he f hf tl htl
    obtain ⟨hd, r, hcons, hnl, hdel, ha, hs⟩ := stmt_head he tl htl
      (.inl (by rcases hend with h | h <;> (rw [h]; exact ⟨by simp, by simp⟩)))
    rw [hcons] at e1 ⊢
    unfold pStatement
    simp only [hnl, if_false, ha, hs, hdel, e1]
    cases tl with
    | nil => cases b <;> cases indexParts e <;> rfl
    | cons o r2 =>
      -- a NEWLINE follows, neither `=` nor an augmented assignment: whatever `b` and `indexParts e` are, the inner
      -- matches fall through to the expression statement
      have ho : o.ty = .NEWLINE := stmtEnd_head hend htl
      cases b <;> cases hi : indexParts e <;> simp [ho]
  | assign hend hn heq he =>
    have e1 := cExpr he f hf.drop0.drop0 tl htl
    simp only [List.cons_append]
    unfold pStatement
    simp [hn, peekTy_cons, heq, e1]
  | short hend hn ho hk he =>
    have e1 := cExpr he f hf.drop0.drop0 tl htl
    simp only [List.cons_append]
    unfold pStatement
    simp [hn, peekTy_cons, ho, hk, e1]
  | del hend hd he hi =>
    have e1 := cExpr he f hf.drop0 tl htl
    simp only [List.cons_append]
    unfold pStatement
    simp [hd, e1, hi]
  | setitem hend he hi heq hv =>
    rename_i ts0 e c k eq tsv v b
    have e1 := cExpr he f hf.left (eq :: (tsv ++ tl)) (peekTy_cons_of heq _)
    have e2 := cExpr hv f hf.right.drop0 tl htl
    obtain ⟨hd, r, hcons, hnl, hdel, ha, hs⟩ := stmt_head he (eq :: (tsv ++ tl)) (peekTy_cons_of heq _) (.inr rfl)
    simp only [List.append_assoc, List.cons_append]
    rw [hcons] at e1 ⊢
    unfold pStatement
    simp only [hnl, if_false, ha, hs, hdel, e1, hi, heq, if_true, e2]
  | setop hend he hi ho hv =>
    rename_i ts0 e c k o tsv v b
    have e1 := cExpr he f hf.left (o :: (tsv ++ tl)) (peekTy_cons_of ho _)
    have e2 := cExpr hv f hf.right.drop0 tl htl
    obtain ⟨hd, r, hcons, hnl, hdel, ha, hs⟩ := stmt_head he (o :: (tsv ++ tl)) (peekTy_cons_of ho _) (.inr rfl)
    have hoa : ¬ Tk.SHORT_OP = Tk.ASSIGN := by decide
    simp only [List.append_assoc, List.cons_append]
    rw [hcons] at e1 ⊢
    unfold pStatement
    simp only [hnl, if_false, ha, hs, hdel, e1, hi, ho, hoa, if_true, e2]

theorem cCode {acc : List Op} {ts : List Token} {out : List Op} (h : RCode acc ts out) :
    ∀ n f, ts.length < n → Fits ts f → pCode n f acc ts = .ok out := by
  induction h with
  | @last acc ts s hs =>
    intro n f hn hf
    have e1 := cStmt hs f hf [] rfl
    rw [List.append_nil] at e1
    cases n with
    | zero => cases hn
    | succ n =>
      unfold pCode
      simp only [e1]
      cases s <;> rfl
  | @more acc ts s nl rest out hs hnl _ ih =>
    intro n f hn hf
    have e1 := cStmt hs f hf.left (nl :: rest) (peekTy_cons_of hnl _)
    cases n with
    | zero => cases hn
    | succ n =>
      unfold pCode
      simp only [e1, hnl, if_true]
      have := ih n f (by simp only [List.length_append, List.length_cons] at hn; omega) hf.right.drop0
      cases s <;> exact this

theorem complete {ts : List Token} {out : List Op} (h : RCode [] ts out) : parseTokens ts = .ok (.code out) := by
  unfold parseTokens
  -- what `parseTokens` supplies is enough: `|ts| + 1` statements for at most `|ts|` separators, and `4 |ts| + 8 ≥ 2 |ts| + 1`
  simp only [cCode h (ts.length + 1) (4 * ts.length + 8) (Nat.lt_succ_self _) (by unfold Fits; omega)]

end Sq
