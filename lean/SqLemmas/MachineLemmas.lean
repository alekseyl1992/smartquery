/-
  Equations and inversions of the machine's functions, and the vocabulary the statements about runs are made in: op counters
  (`opsOf`), frames beneath a continuation (`Core.app`), a control that has not halted (`Den.Live`) or that would have to look
  beneath its continuation (`Underflow`), scopes without those of pending lambda calls (`bal`).
-/
import Sq.Machine
import SqLemmas.HeapLemmas
namespace Sq

theorem run_add (a b : Nat) (c : Cfg) : run (a + b) c = run b (run a c) := by
  induction a generalizing c with
  | zero => simp [run]
  | succ a ih => rw [Nat.succ_add, run, run, ih]

theorem run_budgets (n : Nat) (c : Cfg) : (run n c).budgets = c.budgets := by
  induction n generalizing c with
  | zero => rfl
  | succ n ih => rw [run, ih]; rfl

theorem run_trans {a b : Nat} {c c1 c2 : Cfg} (h1 : run a c = c1) (h2 : run b c1 = c2) : run (a + b) c = c2 := by
  rw [run_add, h1, h2]

theorem stepCore_ev (B : List Nat) (op : Op) (vmi : Nat) (k : List Frame) (w : World) :
    stepCore B { ctl := .ev op vmi, k := k, w := w } =
      match charge w B vmi with
      | none => { ctl := .raise (.unmodelled "vm"), k := k, w := w }
      | some (w', some m) => { ctl := .raise (.opsLimit m), k := k, w := w' }
      | some (w', none) => enter op vmi k w' := rfl

theorem stepCore_congr (B B' : List Nat) (c : Core)
    (h : ∀ op vmi, c.ctl = .ev op vmi → charge c.w B vmi = charge c.w B' vmi) : stepCore B c = stepCore B' c := by
  obtain ⟨ctl, k, w⟩ := c
  cases ctl with
  | ev op vmi => rw [stepCore_ev, stepCore_ev, h op vmi rfl]
  | _ => rfl

theorem charge_eq_some {w : World} {B : List Nat} {vmi : Nat} {vm : VM} {N : Nat} (hvm : w.vm? vmi = some vm)
    (hb : B[vmi]? = some N) :
    charge w B vmi = some (w.setVM vmi { vm with ops := vm.ops + 1 }, if vm.ops + 1 ≥ N then some N else none) := by
  unfold charge
  rw [hvm, hb]

theorem of_charge_eq_some {w : World} {B : List Nat} {vmi : Nat} {w' : World} {lim : Option Nat}
    (h : charge w B vmi = some (w', lim)) :
    ∃ vm, w.vm? vmi = some vm ∧ w' = w.setVM vmi { vm with ops := vm.ops + 1 } := by
  unfold charge at h
  split at h
  · next vm _ hv _ => cases h; exact ⟨vm, hv, rfl⟩
  · cases h

theorem step_ev {c : Cfg} {op : Op} {vmi : Nat} {vm : VM} {N : Nat} (hctl : c.ctl = .ev op vmi)
    (hvm : c.w.vm? vmi = some vm) (hb : c.budgets[vmi]? = some N) :
    step c = (if vm.ops + 1 ≥ N
      then { ctl := .raise (.opsLimit N), k := c.k, w := c.w.setVM vmi { vm with ops := vm.ops + 1 } }
      else enter op vmi c.k (c.w.setVM vmi { vm with ops := vm.ops + 1 })).withBudgets c.budgets := by
  obtain ⟨ctl, k, w, B⟩ := c
  subst hctl
  show (stepCore B { ctl := .ev op vmi, k := k, w := w }).withBudgets B = _
  rw [stepCore_ev, charge_eq_some hvm hb]
  by_cases h : vm.ops + 1 ≥ N
  · rw [if_pos h, if_pos h]
  · rw [if_neg h, if_neg h]

theorem of_writeTop_eq_some {h h' : Heap} {scopes : List Nat} {n : Name} {v : Val} (hw : writeTop h scopes n v = some h') :
    ∃ a rest kvs, scopes = a :: rest ∧ h.get? a = some (.dict kvs) ∧ h' = h.set a (.dict (kvSet kvs n v)) := by
  unfold writeTop at hw
  split at hw
  · cases hw
  · split at hw
    · next a rest _ kvs hg => cases hw; exact ⟨a, rest, kvs, rfl, hg, rfl⟩
    · cases hw

theorem iterNext_of_some {fuel : Nat} (hf : 0 < fuel) {kind : IterKind} {g : Val} {src src' : IterSrc} {item acc : List Val}
    {w : World} (hn : nextItem w.heap src = some (item, src')) (k : List Frame) :
    iterNext fuel kind g src acc k w =
      callVal (fuel - 1) g (match kind with | .reduce => acc.headD .none :: item | _ => item)
        (.iterK kind g src' (item.headD .none) acc :: k) w := by
  obtain ⟨tf, rfl⟩ : ∃ tf, fuel = tf + 1 := ⟨fuel - 1, by omega⟩
  unfold iterNext
  simp only [hn]
  rfl

theorem iterNext_of_none {fuel : Nat} (hf : 0 < fuel) {kind : IterKind} {src : IterSrc} {w : World}
    (hn : nextItem w.heap src = none) (g : Val) (acc : List Val) (k : List Frame) :
    iterNext fuel kind g src acc k w =
      match kind with
      | .map | .filter =>
        mkRet (.ref (w.heap.alloc (.list acc.reverse)).2) k { w with heap := (w.heap.alloc (.list acc.reverse)).1 }
      | .reduce => mkRet (acc.headD .none) k w
      | .sortKeys items rev dictMode => sortFinish acc.reverse items rev dictMode k w := by
  obtain ⟨tf, rfl⟩ : ∃ tf, fuel = tf + 1 := ⟨fuel - 1, by omega⟩
  unfold iterNext
  simp only [hn]
  cases kind <;> rfl

/-- what a binary operator returns: a comparison a boolean, the arithmetic operators what their primitive returns, the world
    unchanged; `+` what `pyAdd` returns (its right operand possibly turned into a string first), with the heap `pyAdd` leaves -/
theorem applyBin_ok {w : World} {bk : BinK} {a b r : Val} {w' : World} (h : applyBin w bk a b = .ok (r, w')) :
    (w' = w ∧ ((∃ t, r = .bool t) ∨ pySub a b = .ok r ∨ pyDiv a b = .ok r ∨ (∃ d, liftDec d = .ok r) ∨ ∃ x y, decPow x y = .ok r)) ∨
    ∃ b2 hp, (b2 = b ∨ ∃ s, b2 = .str s) ∧ pyAdd w.heap a b2 = .ok (r, hp) ∧ w' = { w with heap := hp } := by
  unfold applyBin at h
  cases bk <;> simp only [] at h
  case add =>
    split at h
    · cases h
    · next b2 hb2 =>
      obtain ⟨⟨v, hp⟩, hadd, hx⟩ := map_eq_ok h; cases hx
      refine .inr ⟨b2, hp, ?_, hadd, rfl⟩
      split at hb2
      · cases hb2; exact .inl rfl
      · obtain ⟨x, -, hx⟩ := map_eq_ok hb2; exact .inr ⟨x, hx.symm⟩
      · cases hb2; exact .inl rfl
  case sub => obtain ⟨x, hx, e⟩ := map_eq_ok h; cases e; exact .inl ⟨rfl, .inr (.inl hx)⟩
  case div => obtain ⟨x, hx, e⟩ := map_eq_ok h; cases e; exact .inl ⟨rfl, .inr (.inr (.inl hx))⟩
  case mul =>
    split at h
    · split at h <;> cases h
    · split at h
      · obtain ⟨x, hx, e⟩ := map_eq_ok h; cases e; exact .inl ⟨rfl, .inr (.inr (.inr (.inl ⟨_, hx⟩)))⟩
      · cases h
  case pow =>
    split at h
    · cases h
    · split at h
      · cases h
      · obtain ⟨x, hx, e⟩ := map_eq_ok h; cases e; exact .inl ⟨rfl, .inr (.inr (.inr (.inr ⟨_, _, hx⟩)))⟩
  case and => cases h
  case or => cases h
  all_goals obtain ⟨x, -, e⟩ := map_eq_ok h; cases e; exact .inl ⟨rfl, .inl ⟨_, rfl⟩⟩

theorem applyBin_world {w : World} {bk : BinK} {a b r : Val} {w' : World} (h : applyBin w bk a b = .ok (r, w')) :
    w' = w ∨ ∃ b2 hp, pyAdd w.heap a b2 = .ok (r, hp) ∧ w' = { w with heap := hp } :=
  (applyBin_ok h).imp And.left fun ⟨b2, hp, _, h⟩ => ⟨b2, hp, h⟩

theorem ofBR_ok (v : Val) (s : BState) (k : List Frame) (w : World) : ofBR (.ok (v, s)) k w = mkRet v k (w.withB s) := rfl

theorem ofBR_error (e : PyErr) (k : List Frame) (w : World) : ofBR (.error e) k w = mkRaise e k w := rfl

theorem unwind_passes {fr : Frame} (h : fr ≠ .tryK) (e : PyErr) (k : List Frame) (w : World) :
    ∃ w', unwind fr e k w = mkRaise e k w' ∧ w'.log = w.log ∧ w'.heap = w.heap := by
  cases fr with
  | tryK => exact absurd rfl h
  | popScopeK vm =>
    unfold unwind
    simp only []
    split <;> exact ⟨_, rfl, rfl, rfl⟩
  | _ => exact ⟨w, rfl, rfl, rfl⟩

theorem setVM_vms_getElem? (w : World) (j i : Nat) (vm : VM) :
    (w.setVM j vm).vms[i]? = if j = i then (w.vms[i]?).map (fun _ => vm) else w.vms[i]? := by
  unfold World.setVM
  simp only [List.getElem?_set]
  by_cases h : j = i
  · subst h
    by_cases hl : j < w.vms.length
    · simp [hl]
    · simp [hl]
  · simp [h]

def opsOf (w : World) : List Nat := w.vms.map (·.ops)

theorem opsOf_setVM_scopes (w : World) (i : Nat) (vm : VM) (sc : List Nat) (h : w.vm? i = some vm) :
    opsOf (w.setVM i { vm with scopes := sc }) = opsOf w := by
  unfold opsOf World.setVM World.vm? at *
  simp only [List.map_set]
  apply List.ext_getElem?
  intro j
  by_cases hij : i = j
  · subst hij
    have hlt : i < w.vms.length := (List.getElem?_eq_some_iff.mp h).1
    have hv : w.vms[i] = vm := (List.getElem?_eq_some_iff.mp h).2
    simp [hlt, hv]
  · simp [hij]

theorem opsOf_setVM_ops (w : World) (i : Nat) (vm : VM) (n : Nat) :
    opsOf (w.setVM i { vm with ops := n }) = (opsOf w).set i n := by
  unfold opsOf World.setVM
  simp [List.map_set]

theorem opsOf_heap (w : World) (h : Heap) : opsOf { w with heap := h } = opsOf w := rfl

def Core.app (c : Core) (k0 : List Frame) : Core := { c with k := c.k ++ k0 }

def Cfg.app (c : Cfg) (k0 : List Frame) : Cfg := { c with k := c.k ++ k0 }

/-- the control has not halted; stated here, of a machine core, because the sweep in Local.lean carries it -/
def Den.Live (c : Core) : Prop := match c.ctl with | .done _ => False | .failed _ => False | _ => True

/-- the step would have to look beneath the configuration's own continuation -/
def Underflow (c : Core) : Prop := c.k = [] ∧ ((∃ v, c.ctl = .ret v) ∨ (∃ e, c.ctl = .raise e))

theorem ev_not_underflow (op : Op) (vmi : Nat) (k : List Frame) (w : World) :
    ¬ Underflow ({ ctl := .ev op vmi, k := k, w := w } : Core) := fun hu => by
  rcases hu.2 with ⟨v, hv⟩ | ⟨e, he⟩ <;> cases ‹_›

/-! `popCount i k`: how many `popScopeK i` frames (pending `finally: pop scope` of lambda calls on VM `i`) the
  continuation holds.  `bal w k i`: the scope stack of VM `i` with that many scopes removed from the top —
  what the scopes WILL be once every pending lambda call has returned or raised. -/

def popCount (i : Nat) : List Frame → Nat
  | [] => 0
  | .popScopeK j :: k => (if j = i then 1 else 0) + popCount i k
  | _ :: k => popCount i k

def bal (w : World) (k : List Frame) (i : Nat) : Option (List Nat) :=
  (w.vms[i]?).map (fun vm => vm.scopes.drop (popCount i k))

def Den.scopesAt (w : World) (i : Nat) : Option (List Nat) := (w.vms[i]?).map (·.scopes)

theorem bal_nil (w : World) (i : Nat) : bal w [] i = Den.scopesAt w i := rfl

theorem popCount_append (i : Nat) (k1 k2 : List Frame) : popCount i (k1 ++ k2) = popCount i k1 + popCount i k2 := by
  induction k1 with
  | nil => exact (Nat.zero_add _).symm
  | cons fr k ih =>
    cases fr with
    | popScopeK j =>
      show _ + popCount i (k ++ k2) = _ + popCount i k + _
      rw [ih, Nat.add_assoc]
    | _ => exact ih

theorem bal_append (w : World) (k1 k : List Frame) (i : Nat) :
    bal w (k1 ++ k) i = (bal w k1 i).map (·.drop (popCount i k)) := by
  cases h : w.vms[i]? <;> simp [bal, h, popCount_append, List.drop_drop]

theorem bal_push (w : World) (k : List Frame) (vmi : Nat) (vm : VM) (a : Nat) (hv : w.vm? vmi = some vm) (i : Nat) :
    bal (w.setVM vmi { vm with scopes := a :: vm.scopes }) (.popScopeK vmi :: k) i = bal w k i := by
  unfold bal
  rw [setVM_vms_getElem?]
  unfold World.vm? at hv
  by_cases h : vmi = i
  · subst h
    simp only [if_true, hv, Option.map_some, popCount]
    rw [Nat.add_comm]; rfl
  · simp [h, popCount]

theorem bal_pop (w : World) (k : List Frame) (vmi : Nat) (vm : VM) (hv : w.vm? vmi = some vm) (i : Nat) :
    bal (w.setVM vmi { vm with scopes := vm.scopes.tail }) k i = bal w (.popScopeK vmi :: k) i := by
  unfold bal
  rw [setVM_vms_getElem?]
  unfold World.vm? at hv
  by_cases h : vmi = i
  · subst h
    simp only [if_true, hv, Option.map_some, popCount]
    rw [Nat.add_comm, List.drop_tail]
  · simp [h, popCount]

theorem bal_pop_none (w : World) (k : List Frame) (vmi : Nat) (hv : w.vm? vmi = none) (i : Nat) :
    bal w k i = bal w (.popScopeK vmi :: k) i := by
  unfold bal
  simp only [popCount]
  unfold World.vm? at hv
  by_cases h : vmi = i
  · subst h; simp [hv]
  · simp [h]

theorem bal_ops (w : World) (k : List Frame) (vmi : Nat) (vm : VM) (n : Nat) (hv : w.vm? vmi = some vm) (i : Nat) :
    bal (w.setVM vmi { vm with ops := n }) k i = bal w k i := by
  unfold bal
  rw [setVM_vms_getElem?]
  unfold World.vm? at hv
  by_cases h : vmi = i
  · subst h
    simp [hv]
  · simp [h]

end Sq
