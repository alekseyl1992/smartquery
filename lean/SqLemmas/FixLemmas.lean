/-
  What `fix` (Decimal._fix under the default context) and `quantize` (the arithmetic of `round(x, n)`,
  which ends in `fix`) return.  `fix_zero` and `fix_cases` say what `fix` computes, with its `let`-bound pieces named.
-/
import SqLemmas.DecLemmas
namespace Sq.Dec

/-- the exponent `fix` rounds to: 28 significant digits, but not below Etiny -/
def fixExp (d : Dec) : Int := max ((ndigits d.coeff : Int) + d.exp - prec) etiny

def fixK (d : Dec) : Nat := (fixExp d - d.exp).toNat

def fixQ (d : Dec) : Nat := roundDiv .halfEven d.neg d.coeff (fixK d)

/-- at most `fixK d + 28` digits go in, so the truncated quotient is below 10^28; rounding adds at most one -/
theorem fixQ_le (d : Dec) : fixQ d ≤ 10 ^ 28 := by
  unfold fixQ
  have h1 := roundDiv_le .halfEven d.neg d.coeff (fixK d)
  have h2 := lt_pow_ndigits d.coeff
  have hnd : ndigits d.coeff ≤ fixK d + 28 := by unfold fixK fixExp; simp only [prec]; omega
  have h3 : d.coeff < 10 ^ (fixK d + 28) := Nat.lt_of_lt_of_le h2 (Nat.pow_le_pow_right (by omega) hnd)
  rw [Nat.pow_add] at h3
  have h4 : d.coeff / 10 ^ fixK d < 10 ^ 28 := Nat.div_lt_of_lt_mul h3
  omega

theorem fix_zero (d : Dec) (hz : d.coeff = 0) : fix d = .ok { d with exp := min (max d.exp etiny) emax } := by
  unfold fix
  rw [if_pos hz]

theorem fix_cases (d r : Dec) (h : fix d = .ok r) (hnz : d.coeff ≠ 0) :
    (fixExp d ≤ d.exp ∧ r = d) ∨
    (d.exp < fixExp d ∧ ndigits (fixQ d) ≤ 28 ∧ r = { d with coeff := fixQ d, exp := fixExp d }) ∨
    (d.exp < fixExp d ∧ fixQ d = 10 ^ 28 ∧ r = { d with coeff := 10 ^ 27, exp := fixExp d + 1 }) := by
  unfold fix at h
  rw [if_neg hnz] at h
  -- the `let`-bound exponent, digit count and quotient of the definition are `fixExp d`, `fixK d`, `fixQ d`
  change (if _ then _ else if d.exp < fixExp d then
      if ndigits (fixQ d) > prec then if _ then _ else Except.ok { d with coeff := fixQ d / 10, exp := fixExp d + 1 }
      else Except.ok { d with coeff := fixQ d, exp := fixExp d }
    else Except.ok d) = _ at h
  split at h
  · cases h
  by_cases hlt : d.exp < fixExp d
  · rw [if_pos hlt] at h
    by_cases hbig : ndigits (fixQ d) > prec
    · rw [if_pos hbig] at h
      split at h
      · cases h
      · -- more than 28 digits after rounding up: the quotient is exactly 10^28
        have hq : fixQ d = 10 ^ 28 :=
          Nat.le_antisymm (fixQ_le d) ((lt_ndigits_iff (fixQ d) 28 (by decide)).mp hbig)
        cases h
        rw [hq]
        exact .inr (.inr ⟨hlt, rfl, rfl⟩)
    · rw [if_neg hbig] at h
      cases h
      exact .inr (.inl ⟨hlt, Nat.le_of_not_lt hbig, rfl⟩)
  · rw [if_neg hlt] at h
    cases h
    exact .inl ⟨Int.not_lt.mp hlt, rfl⟩

theorem fix_digits (d r : Dec) (h : fix d = .ok r) : ndigits r.coeff ≤ prec := by
  by_cases hz : d.coeff = 0
  · rw [fix_zero d hz] at h
    cases h
    rw [hz]
    decide
  · rcases fix_cases d r h hz with ⟨hfit, rfl⟩ | ⟨_, hq, rfl⟩ | ⟨_, _, rfl⟩
    · unfold fixExp at hfit
      simp only [prec] at *
      omega
    · exact hq
    · show ndigits (10 ^ 27) ≤ prec
      decide

theorem fix_of_fits (d r : Dec) (hd : ndigits d.coeff ≤ prec) (he : etiny ≤ d.exp) (he2 : d.exp ≤ emax)
    (h : fix d = .ok r) : r = d := by
  by_cases hz : d.coeff = 0
  · rw [fix_zero d hz] at h
    cases h
    have : min (max d.exp etiny) emax = d.exp := by omega
    rw [this]
  · have hfit : fixExp d ≤ d.exp := by unfold fixExp; simp only [prec] at *; omega
    rcases fix_cases d r h hz with ⟨_, e⟩ | ⟨hlt, _⟩ | ⟨hlt, _⟩
    · exact e
    · omega
    · omega

theorem fix_nearest (d r : Dec) (h : fix d = .ok r) (hnz : d.coeff ≠ 0) :
    r.neg = d.neg ∧ ∃ j : Nat, r.exp = d.exp + j ∧ NearestEven d.coeff r.coeff (10 ^ j) := by
  have hround := roundRat_nearest d.coeff (10 ^ fixK d) (Nat.pow_pos (by decide))
  rw [← roundDiv_halfEven d.neg] at hround
  rcases fix_cases d r h hnz with ⟨_, rfl⟩ | ⟨hlt, _, rfl⟩ | ⟨hlt, hq, rfl⟩
  · exact ⟨rfl, 0, by simp, by simp [NearestEven, Nearest]⟩
  · exact ⟨rfl, fixK d, by show fixExp d = d.exp + ((fixK d : Nat) : Int); unfold fixK; omega, hround⟩
  · refine ⟨rfl, fixK d + 1, ?_, ?_, fun _ => (by decide : 10 ^ 27 % 2 = 0)⟩
    · show fixExp d + 1 = d.exp + ((fixK d + 1 : Nat) : Int)
      unfold fixK; omega
    · have hb := hround.1
      rw [show roundDiv .halfEven d.neg d.coeff (fixK d) = 10 ^ 28 from hq] at hb
      show Nearest d.coeff (10 ^ 27) (10 ^ (fixK d + 1))
      rw [Nat.pow_succ 10 (fixK d)]
      exact nearest_carry _ (10 ^ 27) _ hb

theorem rescale_cases (a : Dec) (e : Int) :
    (rescale a e .halfEven).neg = a.neg ∧ (rescale a e .halfEven).exp = e ∧
    ((a.coeff = 0 ∧ (rescale a e .halfEven).coeff = 0) ∨
     (a.coeff ≠ 0 ∧ e ≤ a.exp ∧ (rescale a e .halfEven).coeff = a.coeff * 10 ^ (a.exp - e).toNat) ∨
     (a.coeff ≠ 0 ∧ a.exp < e ∧ (rescale a e .halfEven).coeff = roundDiv .halfEven a.neg a.coeff (e - a.exp).toNat)) := by
  by_cases hz : a.coeff = 0
  · refine ⟨?_, ?_, Or.inl ⟨hz, ?_⟩⟩ <;> unfold rescale <;> simp only [hz, if_true]
  · by_cases hge : a.exp ≥ e
    · refine ⟨?_, ?_, Or.inr (Or.inl ⟨hz, hge, ?_⟩)⟩ <;> unfold rescale <;> simp only [hz, if_false, hge, if_true]
    · refine ⟨?_, ?_, Or.inr (Or.inr ⟨hz, by omega, ?_⟩)⟩ <;> unfold rescale <;> simp only [hz, if_false, hge]

theorem quantize_ok (a r : Dec) (e : Int) (h : quantize a e = .ok r) :
    r = rescale a e .halfEven ∧ ndigits r.coeff ≤ prec ∧ etiny ≤ e ∧ e ≤ emax := by
  have hexp := (rescale_cases a e).2.1
  unfold quantize at h
  by_cases hrange : ¬ (etiny ≤ e ∧ e ≤ emax)
  · rw [if_pos hrange] at h; cases h
  have hr : etiny ≤ e ∧ e ≤ emax := Decidable.of_not_not hrange
  -- every answering branch is `fix` of the rescaled argument, and that already fits
  have hfix : fix (rescale a e .halfEven) = .ok r ∧ ndigits (rescale a e .halfEven).coeff ≤ prec := by
    rw [if_neg hrange] at h
    by_cases hz : a.coeff = 0
    · rw [if_pos hz] at h
      have e0 : rescale a e .halfEven = { a with exp := e } := by unfold rescale; rw [if_pos hz]
      rw [e0]
      exact ⟨h, by rw [hz]; decide⟩
    · rw [if_neg hz] at h
      split at h
      · cases h
      split at h
      · cases h
      dsimp only at h
      split at h
      · cases h
      split at h
      · cases h
      · rename_i hnd
        exact ⟨h, Nat.le_of_not_lt hnd⟩
  have hrd := fix_of_fits _ r hfix.2 (by rw [hexp]; exact hr.1) (by rw [hexp]; exact hr.2) hfix.1
  exact ⟨hrd, hrd ▸ hfix.2, hr⟩

theorem quantize_is_rescale (a r : Dec) (e : Int) (h : quantize a e = .ok r) : r = rescale a e .halfEven :=
  (quantize_ok a r e h).1

theorem quantize_cases (a r : Dec) (e : Int) (h : quantize a e = .ok r) :
    r.neg = a.neg ∧ r.exp = e ∧
    ((a.coeff = 0 ∧ r.coeff = 0) ∨
     (a.coeff ≠ 0 ∧ e ≤ a.exp ∧ r.coeff = a.coeff * 10 ^ (a.exp - e).toNat) ∨
     (a.coeff ≠ 0 ∧ a.exp < e ∧ r.coeff = roundDiv .halfEven a.neg a.coeff (e - a.exp).toNat)) := by
  rw [quantize_is_rescale a r e h]; exact rescale_cases a e

end Sq.Dec
