/-
  The copy made by `copy.deepcopy` has the content of the original (C12).  Invariant of the memo walk (`copy_spec`): the result
  is the argument with every address replaced through the final memo (`Via`), and every pair a call added is `Done`: the new
  object is the old one replaced through the memo.  Hence original and copy unfold to the same tree at every depth: they are
  bisimilar as rooted graphs, cycles included.
-/
import SqLemmas.CopyLemmas
set_option autoImplicit false
namespace Sq

abbrev Memo := List (Nat × Nat)

/-- the lookup of `deepcopy`, named: the `find?` hypotheses of `deepcopy_ind`'s rules pass as `Memo.get` facts by unfolding -/
def Memo.get (m : Memo) (a : Nat) : Option (Nat × Nat) := m.find? (fun p => p.1 == a)

theorem Memo.get_mem {m : Memo} {a : Nat} {p : Nat × Nat} (h : m.get a = some p) : p ∈ m ∧ p.1 = a := by
  unfold Memo.get at h
  exact ⟨List.mem_of_find?_eq_some h, by simpa using List.find?_some h⟩

theorem Memo.get_cons (m : Memo) (a a' x : Nat) :
    Memo.get ((a, a') :: m) x = if a = x then some (a, a') else m.get x := by
  unfold Memo.get
  rw [List.find?_cons]
  by_cases e : a = x
  · rw [if_pos e, beq_iff_eq.mpr e]
  · rw [if_neg e, beq_false_of_ne e]

inductive Via (m : Memo) : Val → Val → Prop
  | ref {a p} : m.get a = some p → Via m (.ref a) (.ref p.2)
  | tuple {vs vs'} : vs.length = vs'.length → (∀ (i : Nat) (v v' : Val), vs[i]? = some v → vs'[i]? = some v' → Via m v v') →
      Via m (.tuple vs) (.tuple vs')
  | same {v} : (∀ a, v ≠ .ref a) → (∀ vs, v ≠ .tuple vs) → Via m v v

def ViaL (m : Memo) (xs xs' : List Val) : Prop :=
  xs.length = xs'.length ∧ ∀ (i : Nat) (v v' : Val), xs[i]? = some v → xs'[i]? = some v' → Via m v v'

def ViaObj (m : Memo) : HObj → HObj → Prop
  | .list xs, .list xs' => ViaL m xs xs'
  | .dict kvs, .dict kvs' => kvs.map (·.1) = kvs'.map (·.1) ∧ ViaL m (kvs.map (·.2)) (kvs'.map (·.2))
  | _, _ => False

def Ext (m m' : Memo) : Prop := ∀ a p, m.get a = some p → m'.get a = some p

theorem Ext.refl (m : Memo) : Ext m m := fun _ _ h => h
theorem Ext.trans {a b c : Memo} (h1 : Ext a b) (h2 : Ext b c) : Ext a c := fun x p h => h2 x p (h1 x p h)

theorem Ext.cons {m : Memo} {a a' : Nat} (h : m.get a = none) : Ext m ((a, a') :: m) := by
  intro x p hx
  rw [Memo.get_cons, if_neg fun e => by rw [← e, h] at hx; cases hx]
  exact hx

theorem Via.mono {m m' : Memo} {v v' : Val} (h : Via m v v') (he : Ext m m') : Via m' v v' := by
  induction h with
  | ref hp => exact .ref (he _ _ hp)
  | tuple hl _ ih => exact .tuple hl (fun i v v' h1 h2 => ih i v v' h1 h2)
  | same h1 h2 => exact .same h1 h2

theorem ViaL.mono {m m' : Memo} {xs xs' : List Val} (h : ViaL m xs xs') (he : Ext m m') : ViaL m' xs xs' :=
  ⟨h.1, fun i v v' h1 h2 => (h.2 i v v' h1 h2).mono he⟩

theorem ViaObj.mono {m m' : Memo} {o o' : HObj} (h : ViaObj m o o') (he : Ext m m') : ViaObj m' o o' := by
  cases o <;> cases o' <;> simp only [ViaObj] at h ⊢
  · exact h.mono he
  · exact ⟨h.1, h.2.mono he⟩

theorem ViaL.nil (m : Memo) : ViaL m [] [] := ⟨rfl, fun i v v' h => by simp at h⟩

theorem ViaL.cons {m : Memo} {x x' : Val} {xs xs' : List Val} (h1 : Via m x x') (h2 : ViaL m xs xs') :
    ViaL m (x :: xs) (x' :: xs') := by
  refine ⟨by simp [h2.1], ?_⟩
  intro i v v' hv hv'
  cases i with
  | zero => simp at hv hv'; subst hv; subst hv'; exact h1
  | succ i => simp at hv hv'; exact h2.2 i v v' hv hv'

/-- `b`: the heap size when the copy started, `h0`: the heap then; sharing rests on `inj`, and `p.2 < h.size` keeps the next
    allocation, at `h.size`, off the memo, so that `inj` survives `push` -/
structure CI (b : Nat) (h0 h : Heap) (m : Memo) : Prop where
  old : ∀ x, x < b → h.get? x = h0.get? x
  size : b ≤ h.size
  pairs : ∀ p, p ∈ m → p.1 < b ∧ b ≤ p.2 ∧ p.2 < h.size
  inj : ∀ p q, p ∈ m → q ∈ m → p.2 = q.2 → p = q

def Done (h0 h : Heap) (m : Memo) (p : Nat × Nat) : Prop :=
  ∃ o o', h0.get? p.1 = some o ∧ h.get? p.2 = some o' ∧ ViaObj m o o'

/-- what a call given `h`, `m` guarantees of the `h2`, `m2` it returns -/
structure Spec (b : Nat) (h0 h : Heap) (m : Memo) (h2 : Heap) (m2 : Memo) : Prop where
  ext : Ext m m2
  mem : ∀ p, p ∈ m → p ∈ m2
  ci : CI b h0 h2 m2
  keep : ∀ p, p ∈ m → h2.get? p.2 = h.get? p.2
  fresh : ∀ p, p ∈ m2 → p ∈ m ∨ (h.size ≤ p.2 ∧ Done h0 h2 m2 p)
  grow : h.size ≤ h2.size

theorem Spec.refl {b : Nat} {h0 h : Heap} {m : Memo} (hi : CI b h0 h m) : Spec b h0 h m h m :=
  ⟨Ext.refl m, fun _ hp => hp, hi, fun _ _ => rfl, fun _ hp => Or.inl hp, Nat.le_refl _⟩

theorem Done.mono {h0 h h' : Heap} {m m' : Memo} {p : Nat × Nat} (hd : Done h0 h m p) (he : Ext m m')
    (hk : h'.get? p.2 = h.get? p.2) : Done h0 h' m' p := by
  obtain ⟨o, o', h1, h2, h3⟩ := hd
  exact ⟨o, o', h1, by rw [hk]; exact h2, h3.mono he⟩

theorem Spec.trans {b : Nat} {h0 h h1 h2 : Heap} {m m1 m2 : Memo} (s1 : Spec b h0 h m h1 m1) (s2 : Spec b h0 h1 m1 h2 m2) :
    Spec b h0 h m h2 m2 := by
  refine ⟨s1.ext.trans s2.ext, fun p hp => s2.mem p (s1.mem p hp), s2.ci, ?_, ?_, Nat.le_trans s1.grow s2.grow⟩
  · intro p hp
    rw [s2.keep p (s1.mem p hp), s1.keep p hp]
  · intro p hp
    rcases s2.fresh p hp with h1' | ⟨hs, hd⟩
    · rcases s1.fresh p h1' with h' | ⟨hs, hd⟩
      · exact Or.inl h'
      · exact Or.inr ⟨hs, hd.mono s2.ext (s2.keep p h1')⟩
    · exact Or.inr ⟨Nat.le_trans s1.grow hs, hd⟩

theorem CI.push {b : Nat} {h0 h : Heap} {m : Memo} (hi : CI b h0 h m) (a : Nat) (ha : a < b) (o : HObj) :
    CI b h0 (h.push o) ((a, h.size) :: m) := by
  refine ⟨?_, ?_, ?_, ?_⟩
  · exact fun x hx => (get?_push_lt h o (Nat.lt_of_lt_of_le hx hi.size)).trans (hi.old x hx)
  · simp; have := hi.size; omega
  · intro p hp
    rcases List.mem_cons.mp hp with e | e
    · subst e; simp; exact ⟨ha, hi.size⟩
    · have := hi.pairs p e
      simp; omega
  · -- the new pair's value is the next free address: above every value the memo holds
    intro p q hp hq hpq
    rcases List.mem_cons.mp hp with e1 | e1 <;> rcases List.mem_cons.mp hq with e2 | e2
    · rw [e1, e2]
    · subst e1; have := (hi.pairs q e2).2.2; simp at hpq; omega
    · subst e2; have := (hi.pairs p e1).2.2; simp at hpq; omega
    · exact hi.inj p q e1 e2 hpq

theorem CI.set {b : Nat} {h0 h : Heap} {m : Memo} (hi : CI b h0 h m) (a' : Nat) (ha : b ≤ a') (o : HObj) :
    CI b h0 (h.set a' o) m := by
  refine ⟨?_, ?_, ?_, hi.inj⟩
  · intro x hx
    rw [get?_set_ne h (by omega)]
    exact hi.old x hx
  · rw [size_set]; exact hi.size
  · intro p hp
    rw [size_set]; exact hi.pairs p hp

/-- `s`: the `Spec` of the children, copied in the heap with the placeholder; closing the node overwrites `h.size`, which
    re-establishes `Spec` for the parent -/
theorem finish_node {b : Nat} {h0 h h2 : Heap} {m m2 : Memo} {a : Nat} {o o' placeholder : HObj}
    (hi : CI b h0 h m) (hfind : m.get a = none) (hg : h0.get? a = some o)
    (s : Spec b h0 (h.push placeholder) ((a, h.size) :: m) h2 m2) (hv : ViaObj m2 o o') :
    Spec b h0 h m (h2.set h.size o') m2 ∧ Via m2 (.ref a) (.ref h.size) := by
  have hext : Ext m m2 := (Ext.cons (a' := h.size) hfind).trans s.ext
  have hget : m2.get a = some (a, h.size) := s.ext _ _ (by rw [Memo.get_cons, if_pos rfl])
  have hsz : h.size < h2.size := by have := s.grow; simp at this; omega
  refine ⟨⟨hext, fun p hp => s.mem p (List.mem_cons_of_mem _ hp), s.ci.set _ hi.size _, ?_, ?_, ?_⟩, ?_⟩
  · intro p hp
    have hlt := (hi.pairs p hp).2.2
    rw [get?_set_ne h2 (by omega), s.keep p (List.mem_cons_of_mem _ hp), get?_push_lt h _ hlt]
  · intro p hp
    rcases s.fresh p hp with h1 | ⟨hs, hd⟩
    · rcases List.mem_cons.mp h1 with e | e
      · subst e
        exact Or.inr ⟨Nat.le_refl _, o, o', hg, get?_set_self hsz _, hv⟩
      · exact Or.inl e
    · refine Or.inr ⟨by simp at hs; omega, ?_⟩
      exact hd.mono (Ext.refl _) (get?_set_ne h2 (by simp at hs; omega) _)
  · rw [size_set]; omega
  · exact Via.ref (p := (a, h.size)) hget

theorem viaL_map_snd {m : Memo} {kvs : List (Val × Val)} {vs' : List Val} (h : ViaL m (kvs.map (·.2)) vs') :
    ViaObj m (.dict kvs) (.dict ((kvs.map (·.1)).zip vs')) := by
  have hl : (kvs.map (·.1)).length = vs'.length := by have := h.1; simpa using this
  simp only [ViaObj]
  rw [List.map_fst_zip (by omega), List.map_snd_zip (by omega)]
  exact ⟨rfl, h⟩

theorem copy_spec (b : Nat) (h0 : Heap) (hcl : ∀ a o, a < b → h0.get? a = some o → ObjLt b o) : ∀ (f : Nat),
    (∀ h m v v' h2 m2, deepcopy f h m v = some (v', h2, m2) → CI b h0 h m → RefsLt b v →
      Spec b h0 h m h2 m2 ∧ Via m2 v v') ∧
    (∀ h m vs vs' h2 m2, deepcopy.copyList f h m vs = some (vs', h2, m2) → CI b h0 h m → (∀ v, v ∈ vs → RefsLt b v) →
      Spec b h0 h m h2 m2 ∧ ViaL m2 vs vs') := by
  refine deepcopy_ind ?tuple ?seen ?list ?dict ?scalar ?nil ?cons
  case tuple =>
    intro _ _ _ _ _ _ ih hi hlt
    obtain ⟨s1, l1⟩ := ih hi hlt.of_tuple
    exact ⟨s1, .tuple l1.1 l1.2⟩
  case seen =>
    intro _ _ _ _ hp hi _
    exact ⟨Spec.refl hi, .ref hp⟩
  case list =>
    intro _ _ a xs xs' _ _ hfind hg ih hi hlt
    have ha : a < b := hlt.of_ref
    have hg0 : h0.get? a = some (.list xs) := by rw [← hi.old a ha]; exact hg
    obtain ⟨s1, l1⟩ := ih (hi.push a ha _) (hcl a _ ha hg0)
    exact finish_node hi hfind hg0 s1 (o' := .list xs') l1
  case dict =>
    intro _ _ a kvs _ _ _ hfind hg ih hi hlt
    have ha : a < b := hlt.of_ref
    have hg0 : h0.get? a = some (.dict kvs) := by rw [← hi.old a ha]; exact hg
    obtain ⟨s1, l1⟩ := ih (hi.push a ha _) (hcl a _ ha hg0).values
    exact finish_node hi hfind hg0 s1 (viaL_map_snd l1)
  case scalar =>
    intro _ _ _ hnr hnt hi _
    exact ⟨Spec.refl hi, .same hnr hnt⟩
  case nil =>
    intro _ _ hi _
    exact ⟨Spec.refl hi, ViaL.nil _⟩
  case cons =>
    intro _ _ x _ _ _ _ _ _ _ ih1 ih2 hi hlt
    obtain ⟨s1, v1⟩ := ih1 hi (hlt x (List.mem_cons_self ..))
    obtain ⟨s2, l2⟩ := ih2 s1.ci (fun v hv => hlt v (List.mem_cons_of_mem _ hv))
    exact ⟨s1.trans s2, ViaL.cons (v1.mono s2.ext) l2⟩

theorem memo_preserves_sharing {b : Nat} {h0 h : Heap} {m : Memo} (hi : CI b h0 h m) {a1 a2 : Nat} {p1 p2 : Nat × Nat}
    (h1 : m.get a1 = some p1) (h2 : m.get a2 = some p2) : p1.2 = p2.2 ↔ a1 = a2 := by
  obtain ⟨m1, e1⟩ := Memo.get_mem h1
  obtain ⟨m2, e2⟩ := Memo.get_mem h2
  constructor
  · intro hv
    have := hi.inj p1 p2 m1 m2 hv
    rw [← e1, ← e2, this]
  · intro ha
    subst ha
    rw [h1] at h2
    injection h2 with h2
    rw [h2]

inductive Tree
  | cut
  | dangling
  | leaf (v : Val)
  | tuple (ts : List Tree)
  | list (ts : List Tree)
  | dict (ks : List Val) (ts : List Tree)

/-- what can be read through `v` down to depth `n`; a tree holds no address -/
def unfoldT : Nat → Heap → Val → Tree
  | 0, _, _ => .cut
  | n + 1, h, .tuple vs => .tuple (vs.map (unfoldT n h))
  | n + 1, h, .ref a =>
    (match h.get? a with
     | some (.list xs) => .list (xs.map (unfoldT n h))
     | some (.dict kvs) => .dict (kvs.map (·.1)) (kvs.map (fun kv => unfoldT n h kv.2))
     | none => .dangling)
  | _ + 1, _, v => .leaf v

theorem unfoldT_scalar (n : Nat) (h : Heap) (v : Val) (h1 : ∀ a, v ≠ .ref a) (h2 : ∀ vs, v ≠ .tuple vs) :
    unfoldT (n + 1) h v = .leaf v := by
  cases v <;> first | rfl | exact absurd rfl (h1 _) | exact absurd rfl (h2 _)

theorem map_via {b : Nat} {m : Memo} {f g : Val → Tree}
    (ih : ∀ v v', Via m v v' → RefsLt b v → f v' = g v) {xs xs' : List Val} (hl : ViaL m xs xs')
    (hlt : ∀ v, v ∈ xs → RefsLt b v) : xs'.map f = xs.map g := by
  refine List.ext_getElem (by rw [List.length_map, List.length_map, hl.1]) fun i h' h => ?_
  rw [List.length_map] at h h'
  rw [List.getElem_map, List.getElem_map]
  exact ih _ _ (hl.2 i _ _ (List.getElem?_eq_getElem h) (List.getElem?_eq_getElem h')) (hlt _ (List.getElem_mem h))

theorem unfold_via {b : Nat} {h0 h' : Heap} {m : Memo}
    (hcl : ∀ a o, a < b → h0.get? a = some o → ObjLt b o) (hdone : ∀ p, p ∈ m → Done h0 h' m p) :
    ∀ (n : Nat) (v v' : Val), Via m v v' → RefsLt b v → unfoldT n h' v' = unfoldT n h0 v := by
  intro n
  induction n with
  | zero => intro v v' _ _; rfl
  | succ n ih =>
    intro v v' hv hlt
    cases hv with
    | ref hp =>
      rename_i a p
      obtain ⟨hmem, hp1⟩ := Memo.get_mem hp
      obtain ⟨o, o', g0, g', hobj⟩ := hdone p hmem
      rw [hp1] at g0
      have hlo := hcl a o hlt.of_ref g0
      -- `ViaObj` relates a list to a list and a dict to a dict only
      cases o <;> cases o' <;> simp only [ViaObj] at hobj
      · simp only [unfoldT, g0, g']
        rw [map_via ih hobj hlo]
      · simp only [unfoldT, g0, g']
        have := map_via ih hobj.2 hlo.values
        simp only [List.map_map] at this
        rw [hobj.1]
        congr 1
    | tuple hl hall =>
      simp only [unfoldT]
      rw [map_via ih ⟨hl, hall⟩ hlt.of_tuple]
    | same h1 h2 => rw [unfoldT_scalar n h' v h1 h2, unfoldT_scalar n h0 v h1 h2]

/-- `R`, `P` as in `reach_closed` -/
theorem unfold_agree {R : Val → Prop} {P : Nat → Prop} {h1 h2 : Heap}
    (ref : ∀ a, R (.ref a) → P a) (tuple : ∀ vs, R (.tuple vs) → ∀ v, v ∈ vs → R v)
    (list : ∀ a xs, P a → h1.get? a = some (.list xs) → ∀ v, v ∈ xs → R v)
    (dict : ∀ a kvs, P a → h1.get? a = some (.dict kvs) → ∀ kv, kv ∈ kvs → R kv.1 ∧ R kv.2)
    (hag : ∀ a, P a → h2.get? a = h1.get? a) :
    ∀ (n : Nat) (v : Val), R v → unfoldT n h2 v = unfoldT n h1 v := by
  intro n
  induction n with
  | zero => intro v _; rfl
  | succ n ih =>
    intro v hv
    cases v with
    | ref a =>
      simp only [unfoldT, hag a (ref a hv)]
      cases g : h1.get? a with
      | none => rfl
      | some o =>
        cases o with
        | list xs => exact congrArg Tree.list (List.map_congr_left fun v hm => ih v (list a xs (ref a hv) g v hm))
        | dict kvs =>
          exact congrArg (Tree.dict _) (List.map_congr_left fun kv hm => ih kv.2 (dict a kvs (ref a hv) g kv hm).2)
    | tuple vs => exact congrArg Tree.tuple (List.map_congr_left fun v hm => ih v (tuple vs hv v hm))
    | _ => rfl

theorem unfold_frame {b : Nat} {h0 h' : Heap} (hold : ∀ x, x < b → h'.get? x = h0.get? x)
    (hcl : ∀ a o, a < b → h0.get? a = some o → ObjLt b o) :
    ∀ (n : Nat) (v : Val), RefsLt b v → unfoldT n h' v = unfoldT n h0 v :=
  unfold_agree (R := RefsLt b) (P := (· < b)) (fun _ => RefsLt.of_ref) (fun _ => RefsLt.of_tuple)
    (fun a _ ha hg => hcl a _ ha hg) (fun a _ ha hg => hcl a _ ha hg) hold

theorem unfold_new_only {b : Nat} {h1 h2 : Heap} (hag : ∀ a, a ≥ b → h2.get? a = h1.get? a)
    (hobj : ∀ a, a ≥ b → ∀ o, h1.get? a = some o → ObjGe b o) :
    ∀ (n : Nat) (v : Val), RefsGe b v → unfoldT n h2 v = unfoldT n h1 v :=
  unfold_agree (R := RefsGe b) (P := (· ≥ b)) (fun _ => RefsGe.of_ref) (fun _ => RefsGe.of_tuple)
    (fun a _ ha hg => hobj a ha _ hg) (fun a _ ha hg => hobj a ha _ hg) hag

theorem deepcopy'_walk (h : Heap) (v v' : Val) (h' : Heap) (hcl : Closed h) (hv : RefsLt h.size v)
    (hc : deepcopy' h v = .ok (v', h')) :
    ∃ m : Memo, Via m v v' ∧ (∀ p, p ∈ m → Done h h' m p) ∧ CI h.size h h' m := by
  obtain ⟨m, hr⟩ := deepcopy'_ok hc
  have hi0 : CI h.size h h [] := ⟨fun _ _ => rfl, Nat.le_refl _, fun p hp => (by cases hp), fun p _ hp _ _ => (by cases hp)⟩
  obtain ⟨s1, via1⟩ := (copy_spec h.size h (fun a o _ hg => hcl a o hg) _).1 _ _ _ _ _ _ hr hi0 hv
  exact ⟨m, via1, fun p hp => ((s1.fresh p hp).resolve_left List.not_mem_nil).2, s1.ci⟩

theorem deepcopy'_unfold (h : Heap) (v v' : Val) (h' : Heap) (hcl : Closed h) (hv : RefsLt h.size v)
    (hc : deepcopy' h v = .ok (v', h')) :
    ∀ n, unfoldT n h' v' = unfoldT n h v ∧ unfoldT n h' v = unfoldT n h v := by
  obtain ⟨m, via, hdone, ci⟩ := deepcopy'_walk h v v' h' hcl hv hc
  have hcl' : ∀ a o, a < h.size → h.get? a = some o → ObjLt h.size o := fun a o _ hg => hcl a o hg
  exact fun n => ⟨unfold_via hcl' hdone n v v' via hv, unfold_frame ci.old hcl' n v hv⟩

end Sq
