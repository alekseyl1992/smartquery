/-
  What each API call reads of the session and what it writes: every call resets the lexer
  fields before it reads them, so a session is read only through its cache, world and budgets, and `eval` is
  `parse` followed by a function of the parse result, the world and the budgets.
-/
import Sq.Session
namespace Sq

variable {pf : ParseFn} {pol : Policy} {expr : List Char} {e : List (List Char × Op)} {t : Op}

theorem applyResets_all (st : LexSt) : applyResets Resets.all st = LexSt.init := rfl

theorem cacheFind_mem (h : cacheFind e expr = some t) : (expr, t) ∈ e := by
  obtain ⟨q, hq, rfl⟩ := Option.map_eq_some_iff.mp h
  have hk : q.1 = expr := by simpa using List.find?_some hq
  subst hk
  exact List.mem_of_find?_eq_some hq

theorem mem_cacheInsert {p : List Char × Op} (h : p ∈ cacheInsert e expr t) : p ∈ e ∨ p = (expr, t) := by
  unfold cacheInsert at h
  split at h
  · obtain ⟨q, hq, rfl⟩ := List.mem_map.mp h
    split
    · exact .inr rfl
    · exact .inl hq
  · simpa using h

theorem listNamesCall_eq (s : Session) (expr : List Char) (limit : Option Nat) :
    listNamesCall s expr limit = (listNamesResult LexSt.init expr limit, { s with lex := lexEndState LexSt.init expr }) :=
  rfl

theorem parseCall_none (s : Session) (h : s.cache = none) :
    parseCall pf pol s expr = (pf LexSt.init expr, { s with lex := lexEndState LexSt.init expr }) := by
  simp only [parseCall, parseCallWith, h, applyResets_all]
  cases pf LexSt.init expr <;> rfl

theorem parseCall_hit (s : Session) (hc : s.cache = some e) (hf : cacheFind e expr = some t) :
    parseCall pf pol s expr = (.ok t, { s with cache := some (pol.afterHit expr e) }) := by
  simp only [parseCall, parseCallWith, hc, hf]

theorem parseCall_miss (s : Session) (hc : s.cache = some e) (hf : cacheFind e expr = none) :
    parseCall pf pol s expr =
      (pf LexSt.init expr,
       { s with lex := lexEndState LexSt.init expr,
                cache := some (match pf LexSt.init expr with
                               | .ok t => pol.afterInsert (cacheInsert e expr t)
                               | _ => e) }) := by
  simp only [parseCall, parseCallWith, hc, hf, applyResets_all]
  cases pf LexSt.init expr <;> rfl

theorem parseCall_world_budgets (pf : ParseFn) (pol : Policy) (s : Session) (expr : List Char) :
    (parseCall pf pol s expr).2.world = s.world ∧ (parseCall pf pol s expr).2.budgets = s.budgets := by
  cases hc : s.cache with
  | none => rw [parseCall_none s hc]; exact ⟨rfl, rfl⟩
  | some e =>
    cases hf : cacheFind e expr with
    | some t => rw [parseCall_hit s hc hf]; exact ⟨rfl, rfl⟩
    | none => rw [parseCall_miss s hc hf]; exact ⟨rfl, rfl⟩

theorem evalCall_congr {s s' : Session} (fuel namesAddr budget : Nat)
    (hr : (parseCall pf pol s (Str.rstrip expr)).1 = (parseCall pf pol s' (Str.rstrip expr)).1)
    (hw : s.world = s'.world) (hb : s.budgets = s'.budgets) :
    (evalCall pf pol fuel s expr namesAddr budget).1 = (evalCall pf pol fuel s' expr namesAddr budget).1 ∧
    (evalCall pf pol fuel s expr namesAddr budget).2.world = (evalCall pf pol fuel s' expr namesAddr budget).2.world ∧
    (evalCall pf pol fuel s expr namesAddr budget).2.budgets = (evalCall pf pol fuel s' expr namesAddr budget).2.budgets := by
  have hw' := ((parseCall_world_budgets pf pol s (Str.rstrip expr)).1.trans hw).trans (parseCall_world_budgets pf pol s' (Str.rstrip expr)).1.symm
  have hb' := ((parseCall_world_budgets pf pol s (Str.rstrip expr)).2.trans hb).trans (parseCall_world_budgets pf pol s' (Str.rstrip expr)).2.symm
  unfold evalCall evalCallWith
  unfold parseCall at hr hw' hb'
  generalize parseCallWith Resets.all pf pol s (Str.rstrip expr) = p at hr hw' hb' ⊢
  generalize parseCallWith Resets.all pf pol s' (Str.rstrip expr) = p' at hr hw' hb' ⊢
  obtain ⟨r, s1⟩ := p
  obtain ⟨r', s1'⟩ := p'
  dsimp only at hr hw' hb' ⊢
  subst hr
  cases r with
  | ok ast =>
    dsimp only
    rw [hw', hb']
    cases (runUntil fuel (initCfg s1'.world s1'.budgets namesAddr budget ast)).ctl <;> exact ⟨rfl, rfl, rfl⟩
  | _ => exact ⟨rfl, hw', hb'⟩

theorem evalCall_cache (pf : ParseFn) (pol : Policy) (fuel : Nat) (s : Session) (expr : List Char) (namesAddr budget : Nat) :
    (evalCall pf pol fuel s expr namesAddr budget).2.cache = (parseCall pf pol s (Str.rstrip expr)).2.cache := by
  unfold evalCall evalCallWith parseCall
  generalize parseCallWith Resets.all pf pol s (Str.rstrip expr) = p
  obtain ⟨r, s1⟩ := p
  cases r with
  | ok ast => dsimp only; cases (runUntil fuel (initCfg s1.world s1.budgets namesAddr budget ast)).ctl <;> rfl
  | _ => rfl

end Sq
