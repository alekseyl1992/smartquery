/-
  One induction principle for the eight mutually defined derivation relations of ParseSpec.lean; after it, what
  ParseSound, ParseComplete or both use: the look-ahead `peekTy` of a concatenation, the first token of a derived list,
  the fuel-zero equations of the parser functions.
-/
import SqLemmas.ParseSpec
namespace Sq

structure RAll
    (PExpr : Nat → Assoc → List Token → Op → Bool → LA → Prop)
    (PPrim : List Token → Op → LA → Prop)
    (PSpine : Nat → Assoc → Op → Bool → List Token → Op → Bool → LA → Prop)
    (PArgs : Tk → List Token → List Op → Prop)
    (PTail : Tk → List Op → List Token → List Op → Prop)
    (PDict : List Op → List Token → List Op → Prop)
    (PParams : List Op → List Token → List Op → Prop)
    (PSub : List Token → Op → Bool → Prop) : Prop where
  expr : ∀ {m a ts t b nxt}, RExpr m a ts t b nxt → PExpr m a ts t b nxt
  prim : ∀ {ts t la}, RPrim ts t la → PPrim ts t la
  spine : ∀ {m a l b ts t bt nxt}, RSpine m a l b ts t bt nxt → PSpine m a l b ts t bt nxt
  args : ∀ {close ts out}, RArgs close ts out → PArgs close ts out
  tail : ∀ {close acc ts out}, RArgsTail close acc ts out → PTail close acc ts out
  dict : ∀ {acc ts out}, RDict acc ts out → PDict acc ts out
  params : ∀ {acc ts out}, RParams acc ts out → PParams acc ts out
  sub : ∀ {ts k plain}, RSub ts k plain → PSub ts k plain

/-- Lean's `induction` does not do mutual predicates, and structural recursion over the eight relations is compiled, and
    checked by the kernel once per member, again for every theorem block: here the recursors are applied once.  A premise
    lists the constructor's hypotheses, then the induction hypotheses.  Each has the default `by intros; trivial`: a theorem
    about some of the relations sets the statement of the others to `True` and leaves their premises out. -/
theorem RAll.induct
    {PExpr : Nat → Assoc → List Token → Op → Bool → LA → Prop}
    {PPrim : List Token → Op → LA → Prop}
    {PSpine : Nat → Assoc → Op → Bool → List Token → Op → Bool → LA → Prop}
    {PArgs : Tk → List Token → List Op → Prop}
    {PTail : Tk → List Op → List Token → List Op → Prop}
    {PDict : List Op → List Token → List Op → Prop}
    {PParams : List Op → List Token → List Op → Prop}
    {PSub : List Token → Op → Bool → Prop}
    (expr_mk : ∀ {m : Nat} {a : Assoc} {ts0 : List Token} {t0 : Op} {ts : List Token} {t : Op} {b : Bool} {nxt : LA}, RPrim ts0 t0 ((peekTy ts).or nxt) → RSpine m a t0 false ts t b nxt → PPrim ts0 t0 ((peekTy ts).or nxt) → PSpine m a t0 false ts t b nxt → PExpr m a (ts0 ++ ts) t b nxt := by intros; trivial)
    (prim_atom : ∀ {t : Token} {e : Op} {la : LA}, atomOf t = some e → PPrim [t] e la := by intros; trivial)
    (prim_name : ∀ {t : Token} {la : LA}, t.ty = .NAME → la ≠ some .LPAREN → la ≠ some .LAMBDA → PPrim [t] (Op.name t.val) la := by intros; trivial)
    (prim_call0 : ∀ {n lp rp : Token} {la : LA}, n.ty = .NAME → lp.ty = .LPAREN → rp.ty = .RPAREN → PPrim [n, lp, rp] (Op.call n.val []) la := by intros; trivial)
    (prim_call : ∀ {n lp : Token} {ts : List Token} {args : List Op} {la : LA}, n.ty = .NAME → lp.ty = .LPAREN → RArgs .RPAREN ts args → PArgs .RPAREN ts args → PPrim (n :: lp :: ts) (Op.call n.val args) la := by intros; trivial)
    (prim_lam1 : ∀ {n lam : Token} {ts : List Token} {e : Op} {b : Bool} {la : LA}, n.ty = .NAME → lam.ty = .LAMBDA → RExpr 0 .right ts e b la → PExpr 0 .right ts e b la → PPrim (n :: lam :: ts) (Op.lambda [Op.name n.val] e) la := by intros; trivial)
    (prim_paren : ∀ {lp : Token} {ts : List Token} {e : Op} {b : Bool} {rp : Token} {la : LA}, lp.ty = .LPAREN → RExpr 0 .right ts e b (some .RPAREN) → rp.ty = .RPAREN → PExpr 0 .right ts e b (some .RPAREN) → PPrim (lp :: ts ++ [rp]) e la := by intros; trivial)
    (prim_lamN : ∀ {lp : Token} {ts0 : List Token} {e0 : Op} {b0 : Bool} {comma : Token} {ps : List Token} {params : List Op} {lam : Token} {body : List Token} {e : Op} {b : Bool} {la : LA}, lp.ty = .LPAREN → RExpr 0 .right ts0 e0 b0 (some .COMMA) → comma.ty = .COMMA → RParams [e0] ps params → lam.ty = .LAMBDA → RExpr 0 .right body e b la → PExpr 0 .right ts0 e0 b0 (some .COMMA) → PParams [e0] ps params → PExpr 0 .right body e b la → PPrim (lp :: ts0 ++ comma :: ps ++ lam :: body) (Op.lambda params e) la := by intros; trivial)
    (prim_list0 : ∀ {lb rb : Token} {la : LA}, lb.ty = .LBRACKET → rb.ty = .RBRACKET → PPrim [lb, rb] (Op.call "list".toList []) la := by intros; trivial)
    (prim_list : ∀ {lb : Token} {ts : List Token} {args : List Op} {la : LA}, lb.ty = .LBRACKET → RArgs .RBRACKET ts args → PArgs .RBRACKET ts args → PPrim (lb :: ts) (Op.call "list".toList args) la := by intros; trivial)
    (prim_dict0 : ∀ {lb rb : Token} {la : LA}, lb.ty = .LBRACE → rb.ty = .RBRACE → PPrim [lb, rb] (Op.call "dict".toList []) la := by intros; trivial)
    (prim_dict : ∀ {lb : Token} {ts : List Token} {kvs : List Op} {la : LA}, lb.ty = .LBRACE → RDict [] ts kvs → PDict [] ts kvs → PPrim (lb :: ts) (Op.dict kvs) la := by intros; trivial)
    (prim_neg : ∀ {mi : Token} {ts : List Token} {e : Op} {b : Bool} {la : LA}, mi.ty = .MINUS → RExpr uminusLevel .right ts e b la → PExpr uminusLevel .right ts e b la → PPrim (mi :: ts) (Op.unary UnK.neg e) la := by intros; trivial)
    (prim_not : ∀ {nt : Token} {ts : List Token} {e : Op} {b : Bool} {la : LA}, nt.ty = .NOT → RExpr notLevel .right ts e b la → PExpr notLevel .right ts e b la → PPrim (nt :: ts) (Op.unary UnK.not e) la := by intros; trivial)
    (spine_nil : ∀ {m : Nat} {a : Assoc} {l : Op} {b : Bool} {nxt : LA}, stops m a nxt → PSpine m a l b [] l b nxt := by intros; trivial)
    (spine_bin : ∀ {m : Nat} {a : Assoc} {l : Op} {b : Bool} {o : Token} {lv : Nat} {la : Assoc} {k : BinK} {tsr : List Token} {r : Op} {br : Bool} {rest : List Token} {t : Op} {bt : Bool} {nxt : LA}, decide' m a o.ty = .take lv la → binKind o.ty = some k → RExpr lv la tsr r br ((peekTy rest).or nxt) → RSpine m a (Op.bin k l r) false rest t bt nxt → PExpr lv la tsr r br ((peekTy rest).or nxt) → PSpine m a (Op.bin k l r) false rest t bt nxt → PSpine m a l b (o :: tsr ++ rest) t bt nxt := by intros; trivial)
    (spine_notin : ∀ {m : Nat} {a : Assoc} {l : Op} {b : Bool} {o i : Token} {lv : Nat} {la : Assoc} {tsr : List Token} {r : Op} {br : Bool} {rest : List Token} {t : Op} {bt : Bool} {nxt : LA}, o.ty = .NOT → decide' m a .NOT = .take lv la → i.ty = .IN → RExpr inLevel .nonassoc tsr r br ((peekTy rest).or nxt) → RSpine m a (Op.bin BinK.notin l r) false rest t bt nxt → PExpr inLevel .nonassoc tsr r br ((peekTy rest).or nxt) → PSpine m a (Op.bin BinK.notin l r) false rest t bt nxt → PSpine m a l b (o :: i :: tsr ++ rest) t bt nxt := by intros; trivial)
    (spine_ifx : ∀ {m : Nat} {a : Assoc} {l : Op} {b : Bool} {o : Token} {lv : Nat} {la : Assoc} {tsc : List Token} {c : Op} {bc : Bool} {el : Token} {tse : List Token} {e2 : Op} {be : Bool} {rest : List Token} {t : Op} {bt : Bool} {nxt : LA}, o.ty = .IF → decide' m a .IF = .take lv la → RExpr 0 .right tsc c bc (some .ELSE) → el.ty = .ELSE → RExpr 0 .right tse e2 be ((peekTy rest).or nxt) → RSpine m a (c.ifx l e2) false rest t bt nxt → PExpr 0 .right tsc c bc (some .ELSE) → PExpr 0 .right tse e2 be ((peekTy rest).or nxt) → PSpine m a (c.ifx l e2) false rest t bt nxt → PSpine m a l b (o :: tsc ++ el :: tse ++ rest) t bt nxt := by intros; trivial)
    (spine_index : ∀ {m : Nat} {a : Assoc} {l : Op} {b : Bool} {o : Token} {lv : Nat} {la : Assoc} {tss : List Token} {k : Op} {plain : Bool} {rest : List Token} {t : Op} {bt : Bool} {nxt : LA}, o.ty = .LBRACKET → decide' m a .LBRACKET = .take lv la → RSub tss k plain → RSpine m a (getitem l k) plain rest t bt nxt → PSub tss k plain → PSpine m a (getitem l k) plain rest t bt nxt → PSpine m a l b (o :: tss ++ rest) t bt nxt := by intros; trivial)
    (spine_dot0 : ∀ {m : Nat} {a : Assoc} {l : Op} {b : Bool} {o : Token} {lv : Nat} {la : Assoc} {n lp rp : Token} {rest : List Token} {t : Op} {bt : Bool} {nxt : LA}, o.ty = .DOT → decide' m a .DOT = .take lv la → n.ty = .NAME → lp.ty = .LPAREN → rp.ty = .RPAREN → RSpine m a (Op.call n.val [l]) false rest t bt nxt → PSpine m a (Op.call n.val [l]) false rest t bt nxt → PSpine m a l b (o :: n :: lp :: rp :: rest) t bt nxt := by intros; trivial)
    (spine_dot : ∀ {m : Nat} {a : Assoc} {l : Op} {b : Bool} {o : Token} {lv : Nat} {la : Assoc} {n lp : Token} {tsa : List Token} {args : List Op} {rest : List Token} {t : Op} {bt : Bool} {nxt : LA}, o.ty = .DOT → decide' m a .DOT = .take lv la → n.ty = .NAME → lp.ty = .LPAREN → RArgs .RPAREN tsa args → RSpine m a (Op.call n.val (l :: args)) false rest t bt nxt → PArgs .RPAREN tsa args → PSpine m a (Op.call n.val (l :: args)) false rest t bt nxt → PSpine m a l b (o :: n :: lp :: tsa ++ rest) t bt nxt := by intros; trivial)
    (spine_pipe0 : ∀ {m : Nat} {a : Assoc} {l : Op} {b : Bool} {o : Token} {lv : Nat} {la : Assoc} {n : Token} {rest : List Token} {t : Op} {bt : Bool} {nxt : LA}, o.ty = .PIPE → decide' m a .PIPE = .take lv la → n.ty = .NAME → (peekTy rest).or nxt ≠ some .LPAREN → RSpine m a (Op.call n.val [l]) false rest t bt nxt → PSpine m a (Op.call n.val [l]) false rest t bt nxt → PSpine m a l b (o :: n :: rest) t bt nxt := by intros; trivial)
    (spine_pipe : ∀ {m : Nat} {a : Assoc} {l : Op} {b : Bool} {o : Token} {lv : Nat} {la : Assoc} {n lp : Token} {tsa : List Token} {args : List Op} {rest : List Token} {t : Op} {bt : Bool} {nxt : LA}, o.ty = .PIPE → decide' m a .PIPE = .take lv la → n.ty = .NAME → lp.ty = .LPAREN → RArgs .RPAREN tsa args → RSpine m a (Op.call n.val (l :: args)) false rest t bt nxt → PArgs .RPAREN tsa args → PSpine m a (Op.call n.val (l :: args)) false rest t bt nxt → PSpine m a l b (o :: n :: lp :: tsa ++ rest) t bt nxt := by intros; trivial)
    (args_mk : ∀ {close : Tk} {ts0 : List Token} {e : Op} {b : Bool} {rest : List Token} {out : List Op}, RExpr 0 .right ts0 e b (peekTy rest) → RArgsTail close [e] rest out → PExpr 0 .right ts0 e b (peekTy rest) → PTail close [e] rest out → PArgs close (ts0 ++ rest) out := by intros; trivial)
    (tail_close : ∀ {close : Tk} {acc : List Op} {c : Token}, c.ty = close → close ≠ .COMMA → PTail close acc [c] acc.reverse := by intros; trivial)
    (tail_trailing : ∀ {close : Tk} {acc : List Op} {cm c : Token}, cm.ty = .COMMA → c.ty = close → PTail close acc [cm, c] acc.reverse := by intros; trivial)
    (tail_more : ∀ {close : Tk} {acc : List Op} {cm : Token} {ts0 : List Token} {e : Op} {b : Bool} {rest : List Token} {out : List Op}, cm.ty = .COMMA → peekTy (ts0 ++ rest) ≠ some close → RExpr 0 .right ts0 e b (peekTy rest) → RArgsTail close (e :: acc) rest out → PExpr 0 .right ts0 e b (peekTy rest) → PTail close (e :: acc) rest out → PTail close acc (cm :: ts0 ++ rest) out := by intros; trivial)
    (dict_last : ∀ {acc : List Op} {tsk : List Token} {k : Op} {bk : Bool} {col : Token} {tsv : List Token} {v : Op} {bv : Bool} {rb : Token}, RExpr 0 .right tsk k bk (some .COLON) → col.ty = .COLON → RExpr 0 .right tsv v bv (some .RBRACE) → rb.ty = .RBRACE → PExpr 0 .right tsk k bk (some .COLON) → PExpr 0 .right tsv v bv (some .RBRACE) → PDict acc (tsk ++ col :: tsv ++ [rb]) (v :: k :: acc).reverse := by intros; trivial)
    (dict_lastComma : ∀ {acc : List Op} {tsk : List Token} {k : Op} {bk : Bool} {col : Token} {tsv : List Token} {v : Op} {bv : Bool} {cm rb : Token}, RExpr 0 .right tsk k bk (some .COLON) → col.ty = .COLON → RExpr 0 .right tsv v bv (some .COMMA) → cm.ty = .COMMA → rb.ty = .RBRACE → PExpr 0 .right tsk k bk (some .COLON) → PExpr 0 .right tsv v bv (some .COMMA) → PDict acc (tsk ++ col :: tsv ++ [cm, rb]) (v :: k :: acc).reverse := by intros; trivial)
    (dict_more : ∀ {acc : List Op} {tsk : List Token} {k : Op} {bk : Bool} {col : Token} {tsv : List Token} {v : Op} {bv : Bool} {cm : Token} {rest : List Token} {out : List Op}, RExpr 0 .right tsk k bk (some .COLON) → col.ty = .COLON → RExpr 0 .right tsv v bv (some .COMMA) → cm.ty = .COMMA → peekTy rest ≠ some .RBRACE → RDict (v :: k :: acc) rest out → PExpr 0 .right tsk k bk (some .COLON) → PExpr 0 .right tsv v bv (some .COMMA) → PDict (v :: k :: acc) rest out → PDict acc (tsk ++ col :: tsv ++ cm :: rest) out := by intros; trivial)
    (params_last : ∀ {acc : List Op} {n rp : Token}, n.ty = .NAME → rp.ty = .RPAREN → PParams acc [n, rp] (Op.name n.val :: acc).reverse := by intros; trivial)
    (params_more : ∀ {acc : List Op} {ts0 : List Token} {e : Op} {b : Bool} {cm : Token} {rest : List Token} {out : List Op}, startsNameRparen (ts0 ++ [cm]) = false → RExpr 0 .right ts0 e b (some .COMMA) → cm.ty = .COMMA → RParams (e :: acc) rest out → PExpr 0 .right ts0 e b (some .COMMA) → PParams (e :: acc) rest out → PParams acc (ts0 ++ cm :: rest) out := by intros; trivial)
    (sub_idx : ∀ {ts : List Token} {e : Op} {b : Bool} {rb : Token}, RExpr 0 .right ts e b (some .RBRACKET) → rb.ty = .RBRACKET → PExpr 0 .right ts e b (some .RBRACKET) → PSub (ts ++ [rb]) e true := by intros; trivial)
    (sub_all : ∀ {c rb : Token}, c.ty = .COLON → rb.ty = .RBRACKET → PSub [c, rb] (noneOp.slice noneOp noneOp) false := by intros; trivial)
    (sub_step : ∀ {c1 c2 : Token} {ts : List Token} {e : Op} {b : Bool} {rb : Token}, c1.ty = .COLON → c2.ty = .COLON → RExpr 0 .right ts e b (some .RBRACKET) → rb.ty = .RBRACKET → PExpr 0 .right ts e b (some .RBRACKET) → PSub (c1 :: c2 :: ts ++ [rb]) (noneOp.slice noneOp e) false := by intros; trivial)
    (sub_stop : ∀ {c : Token} {ts : List Token} {e : Op} {b : Bool} {rb : Token}, c.ty = .COLON → RExpr 0 .right ts e b (some .RBRACKET) → rb.ty = .RBRACKET → PExpr 0 .right ts e b (some .RBRACKET) → PSub (c :: ts ++ [rb]) (noneOp.slice e noneOp) false := by intros; trivial)
    (sub_stopColon : ∀ {c : Token} {ts : List Token} {e : Op} {b : Bool} {c2 rb : Token}, c.ty = .COLON → RExpr 0 .right ts e b (some .COLON) → c2.ty = .COLON → rb.ty = .RBRACKET → PExpr 0 .right ts e b (some .COLON) → PSub (c :: ts ++ [c2, rb]) (noneOp.slice e noneOp) false := by intros; trivial)
    (sub_start : ∀ {ts : List Token} {e : Op} {b : Bool} {c rb : Token}, RExpr 0 .right ts e b (some .COLON) → c.ty = .COLON → rb.ty = .RBRACKET → PExpr 0 .right ts e b (some .COLON) → PSub (ts ++ [c, rb]) (e.slice noneOp noneOp) false := by intros; trivial)
    (sub_startColon : ∀ {ts : List Token} {e : Op} {b : Bool} {c c2 rb : Token}, RExpr 0 .right ts e b (some .COLON) → c.ty = .COLON → c2.ty = .COLON → rb.ty = .RBRACKET → PExpr 0 .right ts e b (some .COLON) → PSub (ts ++ [c, c2, rb]) (e.slice noneOp noneOp) false := by intros; trivial)
    (sub_startStop : ∀ {ts : List Token} {e : Op} {b : Bool} {c : Token} {ts2 : List Token} {e2 : Op} {b2 : Bool} {rb : Token}, RExpr 0 .right ts e b (some .COLON) → c.ty = .COLON → RExpr 0 .right ts2 e2 b2 (some .RBRACKET) → rb.ty = .RBRACKET → PExpr 0 .right ts e b (some .COLON) → PExpr 0 .right ts2 e2 b2 (some .RBRACKET) → PSub (ts ++ c :: ts2 ++ [rb]) (e.slice e2 noneOp) false := by intros; trivial) :
    RAll PExpr PPrim PSpine PArgs PTail PDict PParams PSub :=
  -- the motives of the generated recursors take the derivation as a last argument, which no statement here reads
  let M1 := fun m a ts t b nxt (_ : RExpr m a ts t b nxt) => PExpr m a ts t b nxt
  let M2 := fun ts t la (_ : RPrim ts t la) => PPrim ts t la
  let M3 := fun m a l b ts t bt nxt (_ : RSpine m a l b ts t bt nxt) => PSpine m a l b ts t bt nxt
  let M4 := fun close ts out (_ : RArgs close ts out) => PArgs close ts out
  let M5 := fun close acc ts out (_ : RArgsTail close acc ts out) => PTail close acc ts out
  let M6 := fun acc ts out (_ : RDict acc ts out) => PDict acc ts out
  let M7 := fun acc ts out (_ : RParams acc ts out) => PParams acc ts out
  let M8 := fun ts k plain (_ : RSub ts k plain) => PSub ts k plain
  ⟨fun h => @RExpr.rec M1 M2 M3 M4 M5 M6 M7 M8
      expr_mk prim_atom prim_name prim_call0 prim_call prim_lam1 prim_paren prim_lamN prim_list0 prim_list
      prim_dict0 prim_dict prim_neg prim_not spine_nil spine_bin spine_notin spine_ifx spine_index spine_dot0
      spine_dot spine_pipe0 spine_pipe args_mk tail_close tail_trailing tail_more dict_last dict_lastComma
      dict_more params_last params_more sub_idx sub_all sub_step sub_stop sub_stopColon sub_start sub_startColon
      sub_startStop _ _ _ _ _ _ h,
   fun h => @RPrim.rec M1 M2 M3 M4 M5 M6 M7 M8
      expr_mk prim_atom prim_name prim_call0 prim_call prim_lam1 prim_paren prim_lamN prim_list0 prim_list
      prim_dict0 prim_dict prim_neg prim_not spine_nil spine_bin spine_notin spine_ifx spine_index spine_dot0
      spine_dot spine_pipe0 spine_pipe args_mk tail_close tail_trailing tail_more dict_last dict_lastComma
      dict_more params_last params_more sub_idx sub_all sub_step sub_stop sub_stopColon sub_start sub_startColon
      sub_startStop _ _ _ h,
   fun h => @RSpine.rec M1 M2 M3 M4 M5 M6 M7 M8
      expr_mk prim_atom prim_name prim_call0 prim_call prim_lam1 prim_paren prim_lamN prim_list0 prim_list
      prim_dict0 prim_dict prim_neg prim_not spine_nil spine_bin spine_notin spine_ifx spine_index spine_dot0
      spine_dot spine_pipe0 spine_pipe args_mk tail_close tail_trailing tail_more dict_last dict_lastComma
      dict_more params_last params_more sub_idx sub_all sub_step sub_stop sub_stopColon sub_start sub_startColon
      sub_startStop _ _ _ _ _ _ _ _ h,
   fun h => @RArgs.rec M1 M2 M3 M4 M5 M6 M7 M8
      expr_mk prim_atom prim_name prim_call0 prim_call prim_lam1 prim_paren prim_lamN prim_list0 prim_list
      prim_dict0 prim_dict prim_neg prim_not spine_nil spine_bin spine_notin spine_ifx spine_index spine_dot0
      spine_dot spine_pipe0 spine_pipe args_mk tail_close tail_trailing tail_more dict_last dict_lastComma
      dict_more params_last params_more sub_idx sub_all sub_step sub_stop sub_stopColon sub_start sub_startColon
      sub_startStop _ _ _ h,
   fun h => @RArgsTail.rec M1 M2 M3 M4 M5 M6 M7 M8
      expr_mk prim_atom prim_name prim_call0 prim_call prim_lam1 prim_paren prim_lamN prim_list0 prim_list
      prim_dict0 prim_dict prim_neg prim_not spine_nil spine_bin spine_notin spine_ifx spine_index spine_dot0
      spine_dot spine_pipe0 spine_pipe args_mk tail_close tail_trailing tail_more dict_last dict_lastComma
      dict_more params_last params_more sub_idx sub_all sub_step sub_stop sub_stopColon sub_start sub_startColon
      sub_startStop _ _ _ _ h,
   fun h => @RDict.rec M1 M2 M3 M4 M5 M6 M7 M8
      expr_mk prim_atom prim_name prim_call0 prim_call prim_lam1 prim_paren prim_lamN prim_list0 prim_list
      prim_dict0 prim_dict prim_neg prim_not spine_nil spine_bin spine_notin spine_ifx spine_index spine_dot0
      spine_dot spine_pipe0 spine_pipe args_mk tail_close tail_trailing tail_more dict_last dict_lastComma
      dict_more params_last params_more sub_idx sub_all sub_step sub_stop sub_stopColon sub_start sub_startColon
      sub_startStop _ _ _ h,
   fun h => @RParams.rec M1 M2 M3 M4 M5 M6 M7 M8
      expr_mk prim_atom prim_name prim_call0 prim_call prim_lam1 prim_paren prim_lamN prim_list0 prim_list
      prim_dict0 prim_dict prim_neg prim_not spine_nil spine_bin spine_notin spine_ifx spine_index spine_dot0
      spine_dot spine_pipe0 spine_pipe args_mk tail_close tail_trailing tail_more dict_last dict_lastComma
      dict_more params_last params_more sub_idx sub_all sub_step sub_stop sub_stopColon sub_start sub_startColon
      sub_startStop _ _ _ h,
   fun h => @RSub.rec M1 M2 M3 M4 M5 M6 M7 M8
      expr_mk prim_atom prim_name prim_call0 prim_call prim_lam1 prim_paren prim_lamN prim_list0 prim_list
      prim_dict0 prim_dict prim_neg prim_not spine_nil spine_bin spine_notin spine_ifx spine_index spine_dot0
      spine_dot spine_pipe0 spine_pipe args_mk tail_close tail_trailing tail_more dict_last dict_lastComma
      dict_more params_last params_more sub_idx sub_all sub_step sub_stop sub_stopColon sub_start sub_startColon
      sub_startStop _ _ _ h⟩

theorem peekTy_cons (t : Token) (ts : List Token) : peekTy (t :: ts) = some t.ty := rfl
theorem peekTy_nil : peekTy [] = none := rfl

theorem peekTy_cons_of {t : Token} {ty : Tk} (h : t.ty = ty) (ts : List Token) : peekTy (t :: ts) = some ty :=
  h ▸ rfl

theorem peekTy_append (ts tl : List Token) : peekTy (ts ++ tl) = (peekTy ts).or (peekTy tl) := by
  cases ts <;> simp [peekTy]

theorem peekTy_append_la {tl : List Token} {nxt : LA} (ts : List Token) (h : peekTy tl = nxt) :
    peekTy (ts ++ tl) = (peekTy ts).or nxt := by rw [peekTy_append, h]

theorem peekTy_append_ne (ts tl : List Token) (h : ts ≠ []) : peekTy (ts ++ tl) = peekTy ts := by
  cases ts with
  | nil => exact absurd rfl h
  | cons t r => rfl

theorem atomOf_inv {t : Token} {e : Op} (h : atomOf t = some e) :
    (t.ty = .NUMBER ∧ ∃ d, Dec.ofLexeme t.val = some d ∧ e = .value (.num d)) ∨
    (t.ty = .STRING ∧ e = .value (.str t.val)) ∨ (t.ty = .TRUE ∧ e = .value (.bool true)) ∨
    (t.ty = .FALSE ∧ e = .value (.bool false)) ∨ (t.ty = .NONE ∧ e = .value .none) := by
  unfold atomOf at h
  split at h <;> rename_i ht
  · obtain ⟨d, hd, rfl⟩ := Option.map_eq_some_iff.mp h
    exact .inl ⟨ht, d, hd, rfl⟩
  · cases h; exact .inr (.inl ⟨ht, rfl⟩)
  · cases h; exact .inr (.inr (.inl ⟨ht, rfl⟩))
  · cases h; exact .inr (.inr (.inr (.inl ⟨ht, rfl⟩)))
  · cases h; exact .inr (.inr (.inr (.inr ⟨ht, rfl⟩)))
  · cases h

/-- token types an expression can start with -/
def startTk (ty : Tk) : Bool :=
  ty == .NUMBER || ty == .STRING || ty == .TRUE || ty == .FALSE || ty == .NONE || ty == .NAME
  || ty == .LPAREN || ty == .LBRACKET || ty == .LBRACE || ty == .MINUS || ty == .NOT

theorem atom_start (t : Token) (e : Op) (h : atomOf t = some e) : startTk t.ty = true := by
  rcases atomOf_inv h with ⟨ht, _⟩ | ⟨ht, _⟩ | ⟨ht, _⟩ | ⟨ht, _⟩ | ⟨ht, _⟩ <;> (rw [ht]; rfl)

theorem rprim_head {ts : List Token} {t : Op} {la : LA} (h : RPrim ts t la) :
    ∃ hd r, ts = hd :: r ∧ startTk hd.ty = true := by
  cases h with
  | atom ha => exact ⟨_, _, rfl, atom_start _ _ ha⟩
  | _ => exact ⟨_, _, rfl, by simp only [startTk, *]; rfl⟩

theorem rexpr_head {m : Nat} {a : Assoc} {ts : List Token} {t : Op} {b : Bool} {nxt : LA} (h : RExpr m a ts t b nxt) :
    ∃ hd r, ts = hd :: r ∧ startTk hd.ty = true := by
  cases h with
  | mk hp _ =>
    obtain ⟨hd, r, e, hs⟩ := rprim_head hp
    subst e
    exact ⟨hd, _, List.cons_append, hs⟩

theorem rexpr_peek {m : Nat} {a : Assoc} {ts : List Token} {t : Op} {b : Bool} {nxt : LA} (h : RExpr m a ts t b nxt)
    (tl : List Token) (ty : Tk) (hty : startTk ty = false) : peekTy (ts ++ tl) ≠ some ty := by
  obtain ⟨hd, r, e, hs⟩ := rexpr_head h
  subst e
  simp only [List.cons_append, peekTy_cons]
  intro hc
  simp only [Option.some.injEq] at hc
  rw [hc] at hs
  rw [hs] at hty
  cases hty

theorem rargs_peek {close : Tk} {ts : List Token} {args : List Op} (h : RArgs close ts args)
    (tl : List Token) (ty : Tk) (hty : startTk ty = false) : peekTy (ts ++ tl) ≠ some ty := by
  cases h with
  | mk he _ =>
    rw [List.append_assoc]
    exact rexpr_peek he _ ty hty

theorem rdict_peek {acc : List Op} {ts : List Token} {out : List Op} (h : RDict acc ts out)
    (tl : List Token) (ty : Tk) (hty : startTk ty = false) : peekTy (ts ++ tl) ≠ some ty := by
  cases h with
  | last hk _ _ _ | lastComma hk _ _ _ _ | more hk _ _ _ _ _ =>
    rw [List.append_assoc, List.append_assoc]; exact rexpr_peek hk _ ty hty

theorem rargsTail_ne {close : Tk} {acc : List Op} {ts : List Token} {out : List Op} (h : RArgsTail close acc ts out) : ts ≠ [] := by
  cases h <;> simp

/-- here and not in ParseSound, which uses it: the eight `rw`s make Lean generate the equation lemmas of the parser functions
    once, for ParseSound and ParseComplete alike -/
theorem parser_zero :
    (∀ m a ts, pExpr 0 m a ts = .error .fuel) ∧ (∀ m a l b ts, pLoop 0 m a l b ts = .error .fuel) ∧
    (∀ c ts, pArgs 0 c ts = .error .fuel) ∧ (∀ c acc ts, pArgsTail 0 c acc ts = .error .fuel) ∧
    (∀ acc ts, pDictItems 0 acc ts = .error .fuel) ∧ (∀ acc ts, pParams 0 acc ts = .error .fuel) ∧
    (∀ ts, pSubscript 0 ts = .error .fuel) ∧ (∀ ts, pPrefix 0 ts = .error .fuel) := by
  refine ⟨?_, ?_, ?_, ?_, ?_, ?_, ?_, ?_⟩ <;> intros
  · rw [pExpr]
  · rw [pLoop]
  · rw [pArgs]
  · rw [pArgsTail]
  · rw [pDictItems]
  · rw [pParams]
  · rw [pSubscript]
  · rw [pPrefix]

theorem pParams_more (f : Nat) (acc : List Op) (L : List Token) (hs : startsNameRparen L = false) :
    pParams (f + 1) acc L =
      match pExpr f 0 .right L with
      | .error e => .error e
      | .ok ((e, _), r1) =>
        match eat .COMMA r1 with
        | .error e => .error e
        | .ok (_, r2) => pParams f (e :: acc) r2 := by
  -- `rw [pParams]` uses the equation lemma of the catch-all arm, whose side goals say that `L` is not `n :: r :: rest`
  cases L with
  | nil => rw [pParams] <;> first | rfl | (intro _ _ _ h; cases h)
  | cons n t =>
    cases t with
    | nil => rw [pParams] <;> first | rfl | (intro _ _ _ h; cases h)
    | cons r x =>
      rw [pParams]
      simp only [startsNameRparen, Bool.and_eq_false_imp, beq_iff_eq] at hs
      have hnr : ¬ (n.ty = Tk.NAME ∧ r.ty = Tk.RPAREN) := fun h => by
        have := hs h.1
        simp [h.2] at this
      simp only [hnr, if_false]
      rfl

end Sq
