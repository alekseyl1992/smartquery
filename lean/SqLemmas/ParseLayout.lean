/-
  The tree an expression reads as does not depend on WHICH `closer` follows it; hence trailing commas, trailing separators
  and blank statements never change the derived program.
-/
import SqLemmas.ParseComplete
namespace Sq

/-- the change of look-ahead under which a derivation is kept: none, or one closer for another.  "None" is what lets the
    induction go through: an inner expression looks ahead at `(peekTy ts).or nxt`, which does not move when tokens follow it
    (`sw_or`). -/
def Sw (la la' : LA) : Prop := la' = la ∨ (closer la ∧ closer la')

theorem sw_or (ts : List Token) {nxt nxt' : LA} (h : Sw nxt nxt') :
    Sw ((peekTy ts).or nxt) ((peekTy ts).or nxt') := by
  rcases h with h | h
  · left; rw [h]
  · cases ts with
    | nil => right; exact h
    | cons x r => left; rfl

theorem sw_ne {la la' : LA} (h : Sw la la') {ty : Tk} (hty : ty = .LPAREN ∨ ty = .LAMBDA) (hne : la ≠ some ty) :
    la' ≠ some ty := by
  rcases h with h | ⟨_, h⟩
  · rw [h]; exact hne
  · exact h.ne hty

theorem sw_stops {m : Nat} {a : Assoc} {nxt nxt' : LA} (h : Sw nxt nxt') (hs : stops m a nxt) : stops m a nxt' := by
  rcases h with h | ⟨_, h⟩
  · rw [h]; exact hs
  · exact h.stops m a

/-- nothing is claimed of the bracketed forms: the look-ahead inside brackets is their own closing token -/
theorem sw_all :
    RAll (fun m a ts t b nxt => ∀ nxt', Sw nxt nxt' → RExpr m a ts t b nxt')
      (fun ts t la => ∀ la', Sw la la' → RPrim ts t la')
      (fun m a l b ts t bt nxt => ∀ nxt', Sw nxt nxt' → RSpine m a l b ts t bt nxt')
      (fun _ _ _ => True) (fun _ _ _ _ => True) (fun _ _ _ => True) (fun _ _ _ => True) (fun _ _ _ => True) :=
  RAll.induct
    (expr_mk := fun _ _ ihp ihs nxt' hsw => .mk (ihp _ (sw_or _ hsw)) (ihs nxt' hsw))
    (prim_atom := fun ha _ _ => .atom ha)
    (prim_name := fun ht h1 h2 _ hsw => .name ht (sw_ne hsw (Or.inl rfl) h1) (sw_ne hsw (Or.inr rfl) h2))
    (prim_call0 := fun hn hl hr _ _ => .call0 hn hl hr)
    (prim_call := fun hn hl ha _ _ _ => .call hn hl ha)
    (prim_lam1 := fun hn hl _ ih la' hsw => .lam1 hn hl (ih la' hsw))
    (prim_paren := fun hl he hr _ _ _ => .paren hl he hr)
    (prim_lamN := fun hl h0 hc hp hlam _ _ _ ihb la' hsw => .lamN hl h0 hc hp hlam (ihb la' hsw))
    (prim_list0 := fun hl hr _ _ => .list0 hl hr)
    (prim_list := fun hl ha _ _ _ => .list hl ha)
    (prim_dict0 := fun hl hr _ _ => .dict0 hl hr)
    (prim_dict := fun hl hd _ _ _ => .dict hl hd)
    (prim_neg := fun hm _ ih la' hsw => .neg hm (ih la' hsw))
    (prim_not := fun hn _ ih la' hsw => .not hn (ih la' hsw))
    (spine_nil := fun hs _ hsw => .nil (sw_stops hsw hs))
    (spine_bin := fun hd hk _ _ ihe ihs nxt' hsw => .bin hd hk (ihe _ (sw_or _ hsw)) (ihs nxt' hsw))
    (spine_notin := fun ho hd hi _ _ ihe ihs nxt' hsw => .notin ho hd hi (ihe _ (sw_or _ hsw)) (ihs nxt' hsw))
    (spine_ifx := fun ho hd hc hel _ _ _ ihe ihs nxt' hsw => .ifx ho hd hc hel (ihe _ (sw_or _ hsw)) (ihs nxt' hsw))
    (spine_index := fun ho hd hsub _ _ ihs nxt' hsw => .index ho hd hsub (ihs nxt' hsw))
    (spine_dot0 := fun ho hd hn hl hr _ ihs nxt' hsw => .dot0 ho hd hn hl hr (ihs nxt' hsw))
    (spine_dot := fun ho hd hn hl ha _ _ ihs nxt' hsw => .dot ho hd hn hl ha (ihs nxt' hsw))
    (spine_pipe0 := fun ho hd hn hne _ ihs nxt' hsw => .pipe0 ho hd hn (sw_ne (sw_or _ hsw) (Or.inl rfl) hne) (ihs nxt' hsw))
    (spine_pipe := fun ho hd hn hl ha _ _ ihs nxt' hsw => .pipe ho hd hn hl ha (ihs nxt' hsw))

theorem swExpr : ∀ {m a ts t b nxt}, RExpr m a ts t b nxt → ∀ nxt', Sw nxt nxt' → RExpr m a ts t b nxt' :=
  fun h => sw_all.expr h

theorem swPrim : ∀ {ts t la}, RPrim ts t la → ∀ la', Sw la la' → RPrim ts t la' :=
  fun h => sw_all.prim h

theorem swSpine : ∀ {m a l b ts t bt nxt}, RSpine m a l b ts t bt nxt → ∀ nxt', Sw nxt nxt' →
    RSpine m a l b ts t bt nxt' :=
  fun h => sw_all.spine h

theorem swStmt {ts : List Token} {s : Option Op} {nxt : LA} (h : RStmt ts s nxt) (nxt' : LA) (h' : stmtEnd nxt') :
    RStmt ts s nxt' := by
  have sw : stmtEnd nxt → Sw nxt nxt' := fun hend => Or.inr ⟨closer_stmtEnd hend, closer_stmtEnd h'⟩
  cases h with
  | empty _ => exact .empty h'
  | expr hend he => exact .expr h' (swExpr he nxt' (sw hend))
  | assign hend hn heq he => exact .assign h' hn heq (swExpr he nxt' (sw hend))
  | short hend hn ho hk he => exact .short h' hn ho hk (swExpr he nxt' (sw hend))
  | del hend hd he hi => exact .del h' hd (swExpr he nxt' (sw hend)) hi
  | setitem hend he hi heq hv => exact .setitem h' he hi heq (swExpr hv nxt' (sw hend))
  | setop hend he hi ho hv => exact .setop h' he hi ho (swExpr hv nxt' (sw hend))

theorem rcode_leading_blank {acc : List Op} {rest : List Token} {out : List Op} {nl : Token}
    (hnl : nl.ty = .NEWLINE) (h : RCode acc rest out) : RCode acc (nl :: rest) out :=
  RCode.more (ts := []) (RStmt.empty (Or.inr rfl)) hnl h

theorem rcode_trailing_sep {acc : List Op} {ts : List Token} {out : List Op} (h : RCode acc ts out) :
    ∀ {nl : Token}, nl.ty = .NEWLINE → RCode acc (ts ++ [nl]) out := by
  induction h with
  | @last acc ts s hs =>
    intro nl hnl
    -- the last statement is now followed by a separator, and an empty statement ends the text
    exact RCode.more (acc := acc) (swStmt hs (some .NEWLINE) (Or.inr rfl)) hnl
      (RCode.last (acc := pushStmt acc s) (RStmt.empty (Or.inl rfl)))
  | @more acc ts s nl0 rest out hs hnl0 _ ih =>
    intro nl hnl
    rw [List.append_assoc]
    exact RCode.more hs hnl0 (ih hnl)

theorem last_arg_trailing_comma {close : Tk} {acc : List Op} {cm cm' c : Token} {ts0 : List Token} {e : Op} {b : Bool}
    (hclose : closer (some close)) (hne : close ≠ .COMMA)
    (hcm : cm.ty = .COMMA) (hcm' : cm'.ty = .COMMA) (hc : c.ty = close)
    (hfirst : peekTy (ts0 ++ [c]) ≠ some close)
    (he : RExpr 0 .right ts0 e b (some close)) :
    RArgsTail close acc (cm :: ts0 ++ [c]) (e :: acc).reverse ∧
    RArgsTail close acc (cm :: ts0 ++ [cm', c]) (e :: acc).reverse := by
  constructor
  · exact RArgsTail.more hcm hfirst (by rw [peekTy_cons, hc]; exact he) (RArgsTail.close hc hne)
  · have he' : RExpr 0 .right ts0 e b (some .COMMA) := swExpr he _ (Or.inr ⟨hclose, closer_comma⟩)
    refine RArgsTail.more hcm ?_ (by rw [peekTy_cons, hcm']; exact he') (RArgsTail.trailing hcm' hc)
    obtain ⟨x, r, rfl, _⟩ := rexpr_head he
    simpa [peekTy_cons] using hfirst

theorem only_arg_trailing_comma {close : Tk} {cm c : Token} {ts0 : List Token} {e : Op} {b : Bool}
    (hclose : closer (some close)) (hne : close ≠ .COMMA) (hcm : cm.ty = .COMMA) (hc : c.ty = close)
    (he : RExpr 0 .right ts0 e b (some close)) :
    RArgs close (ts0 ++ [c]) [e] ∧ RArgs close (ts0 ++ [cm, c]) [e] := by
  constructor
  · exact RArgs.mk (by rw [peekTy_cons, hc]; exact he) (RArgsTail.close hc hne)
  · have he' : RExpr 0 .right ts0 e b (some .COMMA) := swExpr he _ (Or.inr ⟨hclose, closer_comma⟩)
    exact RArgs.mk (by rw [peekTy_cons, hcm]; exact he') (RArgsTail.trailing hcm hc)

end Sq
