/-
  The configuration invariant `CoreNPg`: every value of the configuration — control, continuation frames, iteration
  state, heap, regex answers, probe table — satisfies `NPg`, pending nodes satisfy `Po`, names to be looked up `Pn`.
  One walk through the transition functions shows that it is inductive and what a step does to the heap.
-/
import SqLemmas.InvAll
import SqLemmas.MachineLemmas
import SqLemmas.HeapStep
namespace Sq.Inv

variable {Pc : List Op → Op → Nat → Prop} {Pb : String → Prop} {Pq : String → Prop} {Pr : Nat → Prop}
variable {Po : Op → Prop} {Pn : Name → Prop} {Psh : Prop}
local macro "NP" : term => `(NPg Pc Pb Pq Pr)
local macro "HeapNP" : term => `(HeapNPg Pc Pb Pq Pr)
local macro "AllNP" : term => `(AllNPg Pc Pb Pq Pr)
local macro "RxNP" : term => `(RxNPg Pc Pb Pq Pr)
local macro "StNP" : term => `(StNPg Pc Pb Pq Pr)

def SrcP (P : Val → Prop) : IterSrc → Prop
  | .live _ _ => True
  | .snap items => ∀ l, l ∈ items → ∀ v, v ∈ l → P v

def KindP (P : Val → Prop) : IterKind → Prop
  | .sortKeys items _ _ => ∀ v, v ∈ items → P v
  | _ => True

/-- the values of a frame satisfy `P`, its pending nodes `Po`, the names it will look up `Pn`; `Psh`: compound assignments
    may occur -/
def FramePg (Po : Op → Prop) (Pn : Name → Prop) (Psh : Prop) (P : Val → Prop) : Frame → Prop
  | .binR _ va => P va
  | .argsK n done todo _ => (∀ v, v ∈ done → P v) ∧ Pn n ∧ ∀ o, o ∈ todo → Po o
  | .dictK done todo _ => (∀ v, v ∈ done → P v) ∧ ∀ o, o ∈ todo → Po o
  | .iterK kind f src cur acc => KindP P kind ∧ P f ∧ SrcP P src ∧ P cur ∧ ∀ v, v ∈ acc → P v
  | .codeK rest _ => ∀ o, o ∈ rest → Po o
  | .binL _ b _ => Po b
  | .ifK a b _ => Po a ∧ Po b
  | .sliceK _ todo _ => ∀ o, o ∈ todo → Po o
  | .shortK n _ _ => Psh ∧ Pn n
  | .astK _ rest main _ => (∀ p, p ∈ rest → Po p.2) ∧ Po main
  | _ => True

local macro "FrameP" : term => `(FramePg Po Pn Psh)

def CtlPg (Po : Op → Prop) (P : Val → Prop) : Ctl → Prop
  | .ret v => P v
  | .done v => P v
  | .ev op _ => Po op
  | _ => True

local macro "CtlP" : term => `(CtlPg Po)

/-- the node predicate is closed under the ways the machine takes nodes apart, and gives what closures and builtin
    values need -/
structure OpsOK (Pc : List Op → Op → Nat → Prop) (Pb : String → Prop) (Po : Op → Prop) (Pn : Name → Prop) (Psh : Prop) : Prop where
  builtin : ∀ n, Pn n → builtinNames.contains (String.ofList n) = true → Pb (String.ofList n)
  name : ∀ n, Po (.name n) → Pn n
  call : ∀ n args, Po (.call n args) → Pn n ∧ ∀ a, a ∈ args → Po a
  short : ∀ n k v, Po (.short n k v) → Psh ∧ Pn n ∧ Po v
  assign : ∀ n v, Po (.assign n v) → Po v
  lambda : ∀ ps body vm, Po (.lambda ps body) → Pc ps body vm
  body : ∀ ps body vm, Pc ps body vm → Po body
  code : ∀ ls, Po (.code ls) → ∀ l, l ∈ ls → Po l
  bin : ∀ k a b, Po (.bin k a b) → Po a ∧ Po b
  unary : ∀ k a, Po (.unary k a) → Po a
  ifx : ∀ c a b, Po (.ifx c a b) → Po c ∧ Po a ∧ Po b
  slice : ∀ a b c, Po (.slice a b c) → Po a ∧ Po b ∧ Po c
  dict : ∀ kvs, Po (.dict kvs) → ∀ a, a ∈ kvs → Po a

theorem opsOK_true : OpsOK (fun _ _ _ => True) (fun _ => True) (fun _ => True) (fun _ => True) True := by
  constructor <;> simp

def ProbesP (P : Val → Prop) (ps : List (Int × ProbeAct)) : Prop :=
  ∀ p, p ∈ ps → match p.2 with | .ret v => P v | .raise _ => True

def RxP (P : Val → Prop) (rx : List RxAns) : Prop :=
  ∀ a, a ∈ rx → match a with
    | .matched g0 gs => P g0 ∧ ∀ v, v ∈ gs → P v
    | .all items => ∀ v, v ∈ items → P v
    | _ => True

variable (Pc Pb Pq Pr) in
structure WorldNPg (w : World) : Prop where
  heap : HeapNP w.heap
  rx : RxNP w.rx
  probes : ProbesP NP w.probes

local macro "WorldNP" : term => `(WorldNPg Pc Pb Pq Pr)

variable (Pc Pb Pq Pr Po Pn Psh) in
structure CoreNPg (c : Core) : Prop where
  ctl : CtlP NP c.ctl
  frames : ∀ fr, fr ∈ c.k → FrameP NP fr
  world : WorldNP c.w

local macro "CoreNP" : term => `(CoreNPg Pc Pb Pq Pr Po Pn Psh)

section imp
variable {P Q : Val → Prop} (h : ∀ v, P v → Q v)
include h

theorem SrcP.imp : ∀ {src : IterSrc}, SrcP P src → SrcP Q src
  | .live _ _, _ => trivial
  | .snap _, hs => fun l hl v hv => h v (hs l hl v hv)

theorem KindP.imp : ∀ {kind : IterKind}, KindP P kind → KindP Q kind
  | .sortKeys _ _ _, hk => fun v hv => h v (hk v hv)
  | .map, _ => trivial
  | .filter, _ => trivial
  | .reduce, _ => trivial

theorem FramePg.imp {fr : Frame} (hf : FrameP P fr) : FrameP Q fr := by
  cases fr with
  | binR => exact h _ hf
  | argsK => exact ⟨fun v hv => h v (hf.1 v hv), hf.2⟩
  | dictK => exact ⟨fun v hv => h v (hf.1 v hv), hf.2⟩
  | iterK => exact ⟨hf.1.imp h, h _ hf.2.1, hf.2.2.1.imp h, h _ hf.2.2.2.1, fun v hv => h v (hf.2.2.2.2 v hv)⟩
  | _ => exact hf

theorem CtlPg.imp : ∀ {c : Ctl}, CtlP P c → CtlP Q c
  | .ret _, hc => h _ hc
  | .done _, hc => h _ hc
  | .ev _ _, hc => hc
  | .raise _, _ => trivial
  | .failed _, _ => trivial

theorem RxP.imp {rx : List RxAns} (hr : RxP P rx) : RxP Q rx := fun a ha =>
  match a, hr a ha with
  | .matched _ _, hx => ⟨h _ hx.1, fun v hv => h v (hx.2 v hv)⟩
  | .all _, hx => fun v hv => h v (hx v hv)
  | .noMatch, _ => trivial
  | .raised _, _ => trivial

theorem ProbesP.imp {ps : List (Int × ProbeAct)} (hp : ProbesP P ps) : ProbesP Q ps := fun p hm =>
  match p, hp p hm with
  | (_, .ret _), hx => h _ hx
  | (_, .raise _), _ => trivial

end imp

variable (Pc Pb Pq Pr Po Pn Psh) in
abbrev FKg (k : List Frame) : Prop := ∀ fr, fr ∈ k → FrameP NP fr
local macro "FK" : term => `(FKg Pc Pb Pq Pr Po Pn Psh)

theorem fk_cons {fr : Frame} {k : List Frame} (hf : FrameP NP fr) (hk : FK k) : FK (fr :: k) :=
  List.forall_mem_cons.mpr ⟨hf, hk⟩

theorem fk_tail {fr : Frame} {k : List Frame} (hk : FK (fr :: k)) : FK k := fun x hx => hk x (by simp [hx])

theorem world_heap {w : World} {h' : Heap} (hw : WorldNP w) (hh : HeapNP h') : WorldNP { w with heap := h' } :=
  ⟨hh, hw.rx, hw.probes⟩
theorem world_setVM {w : World} (hw : WorldNP w) (i : Nat) (vm : VM) : WorldNP (w.setVM i vm) :=
  ⟨hw.heap, hw.rx, hw.probes⟩
theorem world_log {w : World} (hw : WorldNP w) (l : List Event) : WorldNP { w with log := l } :=
  ⟨hw.heap, hw.rx, hw.probes⟩
theorem ofBR_np {k : List Frame} {w : World} (hk : FK k) (hw : WorldNP w) :
    ∀ {r : BR}, (∀ v s', r = .ok (v, s') → NP v ∧ StNP s') → CoreNP (ofBR r k w)
  | .ok (v, s'), hr => ofBR_ok v s' k w ▸ ⟨(hr v s' rfl).1, hk, (hr v s' rfl).2.1, (hr v s' rfl).2.2, hw.probes⟩
  | .error e, _ => ofBR_error e k w ▸ ⟨trivial, hk, hw⟩

theorem bindParams_np (ps : List Op) (args : List Val) (acc out : List (Val × Val))
    (ha : ∀ kv, kv ∈ acc → NP kv.1 ∧ NP kv.2) (hargs : AllNP args) (h : bindParams ps args acc = some out) :
    ∀ kv, kv ∈ out → NP kv.1 ∧ NP kv.2 := by
  fun_induction bindParams ps args acc with
  | case1 => cases h; exact ha
  | case2 => cases h; exact ha
  | case3 p ps v vs acc n _ ih => exact ih (kvSet_np ha _ (allNP_head hargs)) (allNP_tail hargs) h
  | case4 => cases h

variable {M : Nat → Prop}

variable (Pc Pb Pq Pr M) in
/-- asked only of table entries allowed as a value (`Pb name`) -/
def PureOKg : Prop :=
  ∀ name args (w : World) v s, Pb name → AllNP args → WorldNP w → callPure name args w.bstate = .ok (v, s) →
    HeapMod M w.heap s.heap
local macro "PureOK" : term => `(PureOKg Pc Pb Pq Pr M)

variable (Pc Pb Pq Pr Psh M) in
/-- what the operator of a compound assignment `n op= v` may change; asked only where one may occur (`Psh`) -/
def InplaceOKg : Prop :=
  ∀ (s : BState) sk cur v r s', Psh → StNP s → NP cur → NP v → pyInplace s sk cur v = .ok (r, s') → HeapMod M s.heap s'.heap
local macro "InplaceOK" : term => `(InplaceOKg Pc Pb Pq Pr Psh M)

variable (Pc Pb Pq Pr Po Pn Psh M) in
/-- What a transition starting in world `w` above the frames `k` delivers; both at once because both need the same walk
    through every case of every transition function.  The hypotheses sit inside the fields so that no lemma of the walk
    carries them: `k` is handed on untouched; those of `hp` are used at the `callPure` and the `pyInplace` leaf only. -/
structure StepOKg (k : List Frame) (w : World) (c : Core) : Prop where
  np : FK k → CoreNP c
  hp : PureOK → InplaceOK → HStepM M w c.w
local macro "StepOK" : term => `(StepOKg Pc Pb Pq Pr Po Pn Psh M)

namespace StepOKg
variable {w w' : World} {k : List Frame}

/- the world `w'` of the result mostly has the heap and the scope stacks of `w`, whence the default for `hp` -/

theorem raise {e : PyErr} (hw : WorldNP w') (hp : HStepM M w w' := by exact .of_eq rfl rfl) :
    StepOK k w (mkRaise e k w') := ⟨fun hk => ⟨trivial, hk, hw⟩, fun _ _ => hp⟩

theorem ret {v : Val} (hv : NP v) (hw : WorldNP w') (hp : HStepM M w w' := by exact .of_eq rfl rfl) :
    StepOK k w (mkRet v k w') := ⟨fun hk => ⟨hv, hk, hw⟩, fun _ _ => hp⟩

theorem ev {op : Op} {vmi : Nat} (ho : Po op) (hw : WorldNP w') (hp : HStepM M w w' := by exact .of_eq rfl rfl) :
    StepOK k w { ctl := .ev op vmi, k := k, w := w' } := ⟨fun hk => ⟨ho, hk, hw⟩, fun _ _ => hp⟩

theorem push {op : Op} {vmi : Nat} {fr : Frame} (ho : Po op) (hfr : FrameP NP fr) (hw : WorldNP w')
    (hp : HStepM M w w' := by exact .of_eq rfl rfl) : StepOK k w { ctl := .ev op vmi, k := fr :: k, w := w' } :=
  ⟨fun hk => ⟨ho, fk_cons hfr hk, hw⟩, fun _ _ => hp⟩

theorem under {fr : Frame} {c : Core} (hfr : FrameP NP fr) (h : StepOK (fr :: k) w c) : StepOK k w c :=
  ⟨fun hk => h.np (fk_cons hfr hk), h.hp⟩

theorem alloc {o : HObj} (ho : ObjNPg Pc Pb Pq Pr o) (hw : WorldNP w) :
    StepOK k w (mkRet (.ref (w.heap.alloc o).2) k { w with heap := (w.heap.alloc o).1 }) :=
  ⟨fun hk => ⟨(heapNP_alloc hw.heap ho).1, hk, world_heap hw (heapNP_alloc hw.heap ho).2⟩, fun _ _ => alloc_step w o⟩

theorem pure {name : String} {args : List Val} (hn : Pb name) (ha : AllNP args) (hw : WorldNP w) :
    StepOK k w (ofBR (callPure name args w.bstate) k w) :=
  ⟨fun hk => ofBR_np hk hw fun v s' h => callPure_np _ _ _ v s' ha ⟨hw.heap, hw.rx⟩ h,
   fun hb _ => ofBR_step _ _ _ fun v s' h => hb name args w v s' hn ha hw h⟩

theorem ite {c : Prop} [Decidable c] {a b : Core} (ha : StepOK k w a) (hb : StepOK k w b) : StepOK k w (if c then a else b) := by
  split <;> assumption

theorem after_charge {budgets : List Nat} {vmi : Nat} {lim : Option Nat} {c : Core}
    (h : charge w budgets vmi = some (w', lim)) (hc : StepOK k w' c) : StepOK k w c :=
  ⟨hc.np, fun hb hsh => (hc.hp hb hsh).after_charge h⟩

end StepOKg

theorem sortFinish_ok {keys items : List Val} {rev dm : Bool} {k : List Frame} {w : World} (hi : AllNP items)
    (hw : WorldNP w) : StepOK k w (sortFinish keys items rev dm k w) := by
  unfold sortFinish
  split
  · exact .raise hw
  · rename_i sorted hs
    have hsn : AllNP sorted := fun v hv => hi v (sortedBy_mem hs v hv)
    split
    · refine .alloc (o := .dict _) ?_ hw
      intro kv hkv
      obtain ⟨v, hv, e⟩ := List.mem_filterMap.mp hkv
      have hvn := hsn v hv
      split at e
      · injection e with e
        subst e
        cases hvn with | tuple hall => exact forall_mem_pair.mp hall
      · cases e
    · exact .alloc (o := .list _) hsn hw

variable (Pc Pb Pq Pr Po Pn Psh M) in
def IterOKg (it : IterFn) : Prop :=
  ∀ kind g src acc k w, KindP NP kind → NP g → SrcP NP src → AllNP acc → WorldNP w → StepOK k w (it kind g src acc k w)

local macro "IterOK" : term => `(IterOKg Pc Pb Pq Pr Po Pn Psh M)

theorem callClosure_ok (ps : List Op) (body : Op) (vmi : Nat) (args : List Val) (k : List Frame) (w : World)
    (hb : Po body) (ha : AllNP args) (hw : WorldNP w) : StepOK k w (callClosure ps body vmi args k w) := by
  unfold callClosure
  split
  · exact .raise hw
  · rename_i kvs hbp
    split
    · exact .raise hw
    · rename_i vm hv
      simp only [Heap.alloc]
      refine .push hb (fr := .popScopeK vmi) trivial (world_setVM (world_heap hw (heapNP_push hw.heap (o := .dict kvs) ?_)) _ _)
        (pushScope_step hv)
      exact bindParams_np ps args [] kvs (fun kv h => by cases h) ha hbp

theorem srcP_snap_map {α : Type} {P : Val → Prop} {xs : List α} {f : α → List Val}
    (h : ∀ x, x ∈ xs → ∀ v, v ∈ f x → P v) : SrcP P (.snap (xs.map f)) := by
  intro l hl
  obtain ⟨x, hx, rfl⟩ := List.mem_map.mp hl
  exact h x hx

theorem callMap_ok (it : IterFn) (hit : IterOK it) (args : List Val) (k : List Frame) (w : World) (ha : AllNP args)
    (hw : WorldNP w) : StepOK k w (callMap it args k w) := by
  unfold callMap
  split
  · rename_i c g
    have hg : NP g := ha g (by simp)
    split
    · exact hit _ _ _ _ _ _ trivial hg (srcP_snap_map fun _ _ v hv => List.mem_singleton.mp hv ▸ .str) allNP_nil hw
    · split
      · exact hit _ _ _ _ _ _ trivial hg trivial allNP_nil hw
      · rename_i kvs hgk
        exact hit _ _ _ _ _ _ trivial hg (srcP_snap_map fun kv hkv => forall_mem_pair.mpr (hw.heap.1 _ _ hgk kv hkv)) allNP_nil hw
      · exact .raise hw
    · exact .raise hw
    · exact .raise hw
  · exact .raise hw

theorem callFilter_ok (it : IterFn) (hit : IterOK it) (args : List Val) (k : List Frame) (w : World) (ha : AllNP args)
    (hw : WorldNP w) : StepOK k w (callFilter it args k w) := by
  unfold callFilter
  split
  · split
    · split
      · rename_i xs hg
        exact .alloc (o := .list _) (allNP_sub List.filter_sublist.subset (hw.heap.1 _ _ hg)) hw
      · exact .raise hw
    · exact .raise hw
    · exact .raise hw
  · rename_i c g _
    have hg : NP g := ha g (by simp)
    split
    · split
      · exact hit _ _ _ _ _ _ trivial hg trivial allNP_nil hw
      · exact .raise hw
    · exact .raise hw
    · exact .raise hw
  · exact .raise hw

theorem callReduce_ok (it : IterFn) (hit : IterOK it) (args : List Val) (k : List Frame) (w : World) (ha : AllNP args)
    (hw : WorldNP w) : StepOK k w (callReduce it args k w) := by
  unfold callReduce
  split
  · rename_i c g
    have hg : NP g := ha g (by simp)
    have hc : NP c := ha c (by simp)
    split
    · exact .raise hw
    · split
      · exact .raise hw
      · exact .raise hw
      · exact .raise hw
      · rename_i x rest hi
        have hitems := iterItems_np hw.heap hc hi
        refine hit _ _ _ _ _ _ trivial hg ?_ (allNP_cons (allNP_head hitems) allNP_nil) hw
        have hsnap : SrcP NP (.snap (rest.map (fun v => [v]))) :=
          srcP_snap_map fun x hx v hv => List.mem_singleton.mp hv ▸ allNP_tail hitems x hx
        split
        · split
          · trivial
          · exact hsnap
        · exact hsnap
  · exact .raise hw

theorem callSorted_ok (it : IterFn) (hit : IterOK it) (args : List Val) (k : List Frame) (w : World) (ha : AllNP args)
    (hw : WorldNP w) : StepOK k w (callSorted it args k w) := by
  unfold callSorted
  split
  · rename_i c rest
    have hc : NP c := ha c (by simp)
    refine .ite (.raise hw) ?_
    · dsimp only
      have hkey : NP (rest.headD .none) := allNP_headD (allNP_tail ha)
      split
      · exact .raise hw
      · exact .raise hw
      · rename_i items rev hitems _
        have hip : AllNP items := by
          split at hitems
          · split at hitems
            · split at hitems
              · rename_i kvs hg
                cases hitems
                exact heap_items hw.heap hg
              · cases hitems
            · cases hitems
          · exact iterItems_np hw.heap hc hitems
        split
        · exact sortFinish_ok hip hw
        · exact .raise hw
        · refine .ite ?_ (.ite (sortFinish_ok allNP_nil hw) (.raise hw))
          · refine hit _ _ _ _ _ _ hip hkey (srcP_snap_map fun itm hitm v hv => ?_) allNP_nil hw
            have hpi := hip itm hitm
            split at hv
            · split at hv
              · cases hpi with | tuple hall => exact hall v hv
              · exact List.mem_singleton.mp hv ▸ hpi
            · exact List.mem_singleton.mp hv ▸ hpi
  · exact .raise hw

theorem callProbe_ok (args : List Val) (k : List Frame) (w : World) (ha : AllNP args) (hw : WorldNP w) :
    StepOK k w (callProbe args k w) := by
  unfold callProbe
  split
  · rename_i a
    dsimp only
    split
    · rename_i v hact
      obtain ⟨i, _, hi⟩ := Option.bind_eq_some_iff.mp hact
      obtain ⟨p, hp, e⟩ := Option.map_eq_some_iff.mp hi
      have := hw.probes p (List.mem_of_find?_eq_some hp)
      rw [e] at this
      exact .ret this (world_log hw _)
    · exact .raise (world_log hw _)
    · exact .ret (ha a (by simp)) (world_log hw _)
  · exact .raise hw

theorem nextItem_np {h : Heap} (hh : HeapNP h) {src src' : IterSrc} {item : List Val} (hs : SrcP NP src)
    (hn : nextItem h src = some (item, src')) : AllNP item ∧ SrcP NP src' := by
  unfold nextItem at hn
  split at hn
  · split at hn
    · rename_i xs hg
      split at hn
      · rename_i x hx
        injection hn with hn; injection hn with h1 h2
        subst h1; subst h2
        exact ⟨allNP_cons (hh.1 _ _ hg x (List.mem_of_getElem? hx)) allNP_nil, trivial⟩
      · cases hn
    · cases hn
  · cases hn
  · injection hn with hn; injection hn with h1 h2
    subst h1; subst h2
    exact List.forall_mem_cons.mp hs

/-- The `if` chains of `callVal` are taken apart with `StepOKg.ite` in the order of the source: `split` would try to decide
    every later condition at every level. -/
theorem call_ok (hok : OpsOK Pc Pb Po Pn Psh) : ∀ (fuel : Nat),
    (∀ f args k w, NP f → AllNP args → WorldNP w → StepOK k w (callVal fuel f args k w)) ∧ IterOK (iterNext fuel) := by
  intro fuel
  induction fuel with
  | zero =>
    exact ⟨fun _ _ k w _ _ hw => by rw [callVal]; exact .raise hw,
           fun _ _ _ _ k w _ _ _ _ hw => by rw [iterNext]; exact .raise hw⟩
  | succ fuel ih =>
    obtain ⟨ihc, ihi⟩ := ih
    constructor
    · intro f args k w hf ha hw
      unfold callVal
      split
      · rename_i ps body vmi
        have hb : Po body := by cases hf with | closure hc => exact hok.body _ _ _ hc
        exact callClosure_ok _ _ _ _ _ _ hb ha hw
      · exact .ite (callMap_ok _ ihi _ _ _ ha hw) (.ite (.raise hw) (.ite (callFilter_ok _ ihi _ _ _ ha hw)
          (.ite (callReduce_ok _ ihi _ _ _ ha hw) (.ite (callSorted_ok _ ihi _ _ _ ha hw)
          (.pure (by cases hf with | builtin h => exact h) ha hw)))))
      · refine .ite (callProbe_ok _ _ _ ha hw) (.ite ?_ (.ite ?_ (.raise hw)))
        · split
          · exact ihc _ _ _ _ (allNP_head ha) (allNP_tail ha) hw
          · exact .raise hw
        · split
          · exact .under (fr := .tryK) trivial (ihc _ _ _ _ (allNP_head ha) (allNP_tail ha) hw)
          · exact .raise hw
      · exact .raise hw
      · exact .raise hw
    · intro kind g src acc k w hkind hg hsrc hacc hw
      unfold iterNext
      split
      · rename_i item src' hn
        obtain ⟨hitem, hsrc'⟩ := nextItem_np hw.heap hsrc hn
        dsimp only
        have hfr : FrameP NP (.iterK kind g src' (item.headD .none) acc) := ⟨hkind, hg, hsrc', allNP_headD hitem, hacc⟩
        refine .under hfr (ihc _ _ _ _ hg ?_ hw)
        cases kind with
        | reduce => exact allNP_cons (allNP_headD hacc) hitem
        | map => exact hitem
        | filter => exact hitem
        | sortKeys a b c => exact hitem
      · split
        · exact .alloc (o := .list _) (allNP_reverse hacc) hw
        · exact .alloc (o := .list _) (allNP_reverse hacc) hw
        · exact .ret (allNP_headD hacc) hw
        · rename_i items rev dm
          exact sortFinish_ok (fun v hv => (hkind v hv)) hw

theorem lookupName_np {h : Heap} (hh : HeapNP h) (scopes : List Nat) (n : Name) (v : Val)
    (hn : builtinNames.contains (String.ofList n) = true → Pb (String.ofList n)) (hl : lookupName h scopes n = some v) : NP v := by
  fun_induction lookupName h scopes n with
  | case1 hc => cases hl; exact .builtin (hn hc)
  | case2 => cases hl
  | case3 a rest x hf =>
    cases hl
    unfold scopeFind at hf
    split at hf
    · rename_i kvs hg
      obtain ⟨p, hq, rfl⟩ := Option.map_eq_some_iff.mp hf
      exact (hh.1 _ _ hg p (List.mem_of_find?_eq_some hq)).2
    · cases hf
  | case4 a rest hf ih => exact ih hl

theorem doCall_ok (hok : OpsOK Pc Pb Po Pn Psh) (n : Name) (hn : Pn n) (args : List Val) (vmi : Nat) (k : List Frame) (w : World)
    (ha : AllNP args) (hw : WorldNP w) : StepOK k w (doCall n args vmi k w) := by
  unfold doCall
  split
  · exact .raise hw
  · split
    · exact .raise hw
    · rename_i f hl
      exact (call_ok hok callFuel).1 _ _ _ _ (lookupName_np hw.heap _ _ _ (hok.builtin n hn) hl) ha hw

theorem applyBin_np {w : World} {bk : BinK} {a b r : Val} {w' : World} (hw : WorldNP w) (ha : NP a) (hb : NP b)
    (h : applyBin w bk a b = .ok (r, w')) : NP r ∧ WorldNP w' := by
  obtain ⟨rfl, ⟨_, rfl⟩ | h | h | ⟨_, h⟩ | ⟨_, _, h⟩⟩ | ⟨b2, hp, hb2, hadd, rfl⟩ := applyBin_ok h
  · exact ⟨.bool, hw⟩
  · exact ⟨pySub_np h, hw⟩
  · exact ⟨pyDiv_np h, hw⟩
  · exact ⟨liftDec_np h, hw⟩
  · obtain ⟨-, -, ⟨-, -, rfl⟩ | ⟨-, hl⟩⟩ := decPow_ok h
    · exact ⟨.dec, hw⟩
    · exact ⟨liftDec_np hl, hw⟩
  · have hb2n : NP b2 := by
      rcases hb2 with rfl | ⟨_, rfl⟩
      · exact hb
      · exact .str
    exact (pyAdd_ok hw.heap ha hb2n hadd).1.imp id (world_heap hw)

theorem writeTop_np {h h' : Heap} {scopes : List Nat} {n : Name} {v : Val} (hh : HeapNP h) (hv : NP v)
    (hw : writeTop h scopes n v = some h') : HeapNP h' := by
  obtain ⟨_, _, kvs, -, hg, rfl⟩ := of_writeTop_eq_some hw
  exact heapNP_set hh _ (o := .dict _) (kvSet_np (hh.1 _ _ hg) n hv)

theorem pyNeg_np {a v : Val} (h : pyNeg a = .ok v) : NP v := by
  unfold pyNeg at h
  split at h
  · exact liftDec_np h
  · cases h; exact .int
  · cases h; exact .int
  · cases h
  · cases h

theorem applyUn_np {w : World} {uk : UnK} {a r : Val} (h : applyUn w uk a = .ok r) : NP r := by
  cases uk with
  | neg => exact pyNeg_np h
  | not => cases h; exact .bool

theorem buildDict_np {h : Heap} {vs : List Val} {acc out : List (Val × Val)} (hvs : AllNP vs)
    (ha : ∀ kv, kv ∈ acc → NP kv.1 ∧ NP kv.2) (hb : buildDict h vs acc = .ok out) : ∀ kv, kv ∈ out → NP kv.1 ∧ NP kv.2 := by
  fun_induction buildDict h vs acc with
  | case1 => cases hb
  | case2 k v rest acc ks _ ih => exact ih (fun x hx => hvs x (by simp [hx])) (kvSet_np ha _ (hvs v (by simp))) hb
  | case3 => cases hb
  | case4 => cases hb; exact ha

theorem enter_ok (hok : OpsOK Pc Pb Po Pn Psh) (op : Op) (vmi : Nat) (k : List Frame) (w : World) (ho : Po op)
    (hw : WorldNP w) : StepOK k w (enter op vmi k w) := by
  unfold enter
  -- one bullet per arm of `enter`, in its order
  split
  · -- noop
    exact .ret .none hw
  · -- value none
    exact .ret .none hw
  · -- value (bool _)
    exact .ret .bool hw
  · -- value (num _)
    exact .ret .dec hw
  · -- value (str _)
    exact .ret .str hw
  · -- code []
    exact .ret .none hw
  · -- code (l :: rest)
    rename_i l rest
    have ⟨h1, h2⟩ := List.forall_mem_cons.mp (hok.code _ ho)
    exact .push h1 (fr := .codeK rest vmi) h2 hw
  · -- bin
    rename_i bk a b
    have h := hok.bin _ _ _ ho
    exact .push h.1 (fr := .binL bk b vmi) h.2 hw
  · -- unary
    rename_i uk a
    exact .push (hok.unary _ _ ho) (fr := .unK uk) trivial hw
  · -- assign
    rename_i n v
    exact .push (hok.assign _ _ ho) (fr := .assignK n vmi) trivial hw
  · -- short
    rename_i n sk v
    have h := hok.short _ _ _ ho
    exact .push h.2.2 (fr := .shortK n sk vmi) ⟨h.1, h.2.1⟩ hw
  · -- name
    rename_i n
    split
    · exact .raise hw
    · split
      · rename_i v hl
        exact .ret (lookupName_np hw.heap _ _ _ (hok.builtin n (hok.name n ho)) hl) hw
      · exact .raise hw
  · -- ifx
    rename_i c a b
    have h := hok.ifx _ _ _ ho
    exact .push h.1 (fr := .ifK a b vmi) h.2 hw
  · -- slice
    rename_i a b c
    have h := hok.slice _ _ _ ho
    exact .push h.1 (fr := .sliceK [] [b, c] vmi) (forall_mem_pair.mpr h.2) hw
  · -- call n []
    rename_i n
    exact doCall_ok hok _ (hok.call _ _ ho).1 _ _ _ _ allNP_nil hw
  · -- call n (a :: rest)
    rename_i n a rest
    have ⟨hn, h⟩ := hok.call _ _ ho
    have ⟨h1, h2⟩ := List.forall_mem_cons.mp h
    exact .push h1 (fr := .argsK n [] rest vmi) ⟨allNP_nil, hn, h2⟩ hw
  · -- dict []
    exact .alloc (o := .dict []) nofun hw
  · -- dict (a :: rest)
    rename_i a rest
    have ⟨h1, h2⟩ := List.forall_mem_cons.mp (hok.dict _ ho)
    exact .push h1 (fr := .dictK [] rest vmi) ⟨allNP_nil, h2⟩ hw
  · -- lambda
    rename_i ps body
    exact .ret (.closure (hok.lambda _ _ vmi ho)) hw

theorem resume_ok (hok : OpsOK Pc Pb Po Pn Psh) (fr : Frame) (v : Val) (k : List Frame) (w : World) (hfr : FrameP NP fr)
    (hv : NP v) (hw : WorldNP w) : StepOK k w (resume fr v k w) := by
  unfold resume
  -- one bullet per arm of `resume`, in its order
  split
  · -- codeK []
    exact .ret hv hw
  · -- codeK (l :: r)
    rename_i l r vm
    have ⟨h1, h2⟩ := List.forall_mem_cons.mp hfr
    exact .push h1 (fr := .codeK r vm) h2 hw
  · -- binL
    rename_i bk b vm
    have hb : Po b := hfr
    split
    · exact .ite (.ev hb hw) (.ret hv hw)
    · exact .ite (.ret hv hw) (.ev hb hw)
    · exact .push hb (fr := .binR _ v) hv hw
  · -- binR
    rename_i bk va
    split
    · rename_i r w' happ
      obtain ⟨n1, n2⟩ := applyBin_np hw (hfr) hv happ
      exact .ret n1 n2 (applyBin_step happ)
    · exact .raise hw
  · -- unK
    rename_i uk
    split
    · rename_i r happ
      exact .ret (applyUn_np happ) hw
    · exact .raise hw
  · -- assignK
    rename_i n vm
    split
    · exact .raise hw
    · rename_i v' h' hd
      obtain ⟨hv', hh'⟩ := deepcopy'_np hw.heap hv hd
      split
      · exact .raise hw
      · rename_i vmv hvm
        split
        · rename_i h'' hwt
          exact .ret .none (world_heap hw (writeTop_np hh' hv' hwt))
            (writeTop_step hvm (heapMod_of_ext (deepcopy'_ext hd)) hwt)
        · exact .raise hw
  · -- shortK
    rename_i n sk vm
    split
    · exact .raise hw
    · rename_i v' h' hd
      obtain ⟨hv', hh'⟩ := deepcopy'_np hw.heap hv hd
      split
      · exact .raise hw
      · rename_i vmv hvm
        split
        · exact .raise hw
        · rename_i cur hl
          have hcur := lookupName_np hh' _ _ _ (hok.builtin n hfr.2) hl
          split
          · exact .raise hw
          · rename_i nv s hin
            obtain ⟨hnv, hs, -⟩ := pyInplace_ok (s := { heap := h', rng := w.rng, rx := w.rx }) ⟨hh', hw.rx⟩ hcur hv' hin
            split
            · rename_i h'' hwt
              -- the `pyInplace` leaf: the one use of `InplaceOK`
              exact ⟨fun hk => ⟨.none, hk, world_heap hw (writeTop_np hs.1 hnv hwt)⟩, fun _ hi => writeTop_step hvm
                ((heapMod_of_ext (deepcopy'_ext hd)).trans (hi _ _ _ _ _ _ hfr.1 ⟨hh', hw.rx⟩ hcur hv' hin)) hwt⟩
            · exact .raise hw
  · -- ifK
    rename_i a b vm
    have hab : Po a ∧ Po b := hfr
    exact .ite (.ev hab.1 hw) (.ev hab.2 hw)
  · -- sliceK
    rename_i done todo vm
    split
    · exact .raise hw
    · split
      · rename_i x _ _ nxt rest
        have ⟨h1, h2⟩ := List.forall_mem_cons.mp hfr
        exact .push h1 (fr := .sliceK (x :: done) rest vm) h2 hw
      · split
        · exact .ret .slice hw
        · exact .raise hw
  · -- argsK
    rename_i n done todo vm
    obtain ⟨hd, hn, ht⟩ := hfr
    split
    · rename_i nxt rest
      have ⟨h1, h2⟩ := List.forall_mem_cons.mp ht
      exact .push h1 (fr := .argsK n (v :: done) rest vm) ⟨allNP_cons hv hd, hn, h2⟩ hw
    · exact doCall_ok hok _ hn _ _ _ _ (allNP_reverse (allNP_cons hv hd)) hw
  · -- dictK
    rename_i done todo vm
    obtain ⟨hd, ht⟩ := hfr
    split
    · rename_i nxt rest
      have ⟨h1, h2⟩ := List.forall_mem_cons.mp ht
      exact .push h1 (fr := .dictK (v :: done) rest vm) ⟨allNP_cons hv hd, h2⟩ hw
    · split
      · exact .raise hw
      · rename_i kvs hb
        refine .alloc (o := .dict kvs) ?_ hw
        exact buildDict_np (acc := []) (allNP_reverse (allNP_cons hv hd)) (fun _ h => nomatch h) hb
  · -- popScopeK
    rename_i vm
    split
    · exact .raise hw
    · rename_i vmv hvm
      exact .ret hv (world_setVM hw _ _) (popScope_step hvm)
  · -- iterK
    rename_i kind g src cur acc
    obtain ⟨h1, h2, h3, h4, h5⟩ := hfr
    refine (call_ok hok callFuel).2 _ _ _ _ _ _ h1 h2 h3 ?_ hw
    cases kind with
    | map => exact allNP_cons hv h5
    | filter =>
      dsimp only
      split
      · exact allNP_cons h4 h5
      · exact h5
    | reduce => exact allNP_cons hv allNP_nil
    | sortKeys a b c => exact allNP_cons hv h5
  · -- tryK
    exact .ret hv hw
  · -- astK
    rename_i n rest main vm
    split
    · exact .raise hw
    · rename_i vmv hvm
      split
      · exact .raise hw
      · rename_i h' hwt
        have hwn := world_heap hw (writeTop_np hw.heap hv hwt)
        have hwh : HStepM M w { w with heap := h' } := writeTop_step hvm (heapMod_refl _ _) hwt
        obtain ⟨hrest, hmain⟩ : (∀ p, p ∈ rest → Po p.2) ∧ Po main := hfr
        split
        · exact .ev hmain hwn hwh
        · rename_i n' op' rest'
          have ⟨h1, h2⟩ := List.forall_mem_cons.mp hrest
          exact .push h1 (fr := .astK n' rest' main vm) ⟨h2, hmain⟩ hwn hwh

theorem unwind_ok (fr : Frame) (e : PyErr) (k : List Frame) (w : World) (hw : WorldNP w) :
    StepOK k w (unwind fr e k w) := by
  unfold unwind
  split
  · -- popScopeK
    split
    · exact .raise hw
    · rename_i vmv hvm
      exact .raise (world_setVM hw _ _) (popScope_step hvm)
  · -- tryK
    split
    · exact .raise hw
    · exact .ret .none (world_log hw _)
  · -- every other frame
    exact .raise hw

theorem charge_np {w : World} {budgets : List Nat} {vmi : Nat} {w' : World} {lim : Option Nat} (hw : WorldNP w)
    (h : charge w budgets vmi = some (w', lim)) : WorldNP w' := by
  obtain ⟨_, _, rfl⟩ := of_charge_eq_some h
  exact world_setVM hw _ _

/-- a step is a transition above some part `k` of the continuation -/
theorem step_ok (hok : OpsOK Pc Pb Po Pn Psh) (B : List Nat) : ∀ c : Core, CoreNP c → ∃ k, FK k ∧ StepOK k c.w (stepCore B c)
  | ⟨.ev op vmi, k, w⟩, hc => by
    refine ⟨k, hc.frames, ?_⟩
    rw [stepCore_ev]
    split
    · exact .raise hc.world
    · next hch => exact .raise (charge_np hc.world hch) (charge_step hch)
    · next hch => exact .after_charge hch (enter_ok hok op vmi k _ hc.ctl (charge_np hc.world hch))
  | ⟨.ret v, fr :: k, w⟩, hc => ⟨k, fk_tail hc.frames, resume_ok hok fr v k w (hc.frames fr (by simp)) hc.ctl hc.world⟩
  | ⟨.raise e, fr :: k, w⟩, hc => ⟨k, fk_tail hc.frames, unwind_ok fr e k w hc.world⟩
  | ⟨.ret _, [], _⟩, hc | ⟨.raise _, [], _⟩, hc | ⟨.done _, _, _⟩, hc | ⟨.failed _, _, _⟩, hc =>
    ⟨_, hc.frames, fun _ => ⟨hc.ctl, hc.frames, hc.world⟩, fun _ _ => .of_eq rfl rfl⟩

theorem step_np (hok : OpsOK Pc Pb Po Pn Psh) (budgets : List Nat) (c : Core) (hc : CoreNP c) : CoreNP (stepCore budgets c) :=
  have ⟨_, hk, h⟩ := step_ok (M := fun _ => True) hok budgets c hc  -- any `M` does: `hp` is dropped
  h.np hk

theorem step_heap (hok : OpsOK Pc Pb Po Pn Psh) (hb : PureOK) (hsh : InplaceOK) (budgets : List Nat) (c : Core) (hc : CoreNP c) :
    HStepM M c.w (stepCore budgets c).w :=
  have ⟨_, _, h⟩ := step_ok hok budgets c hc
  h.hp hb hsh

theorem run_succ_right (i : Nat) (c : Cfg) : run (i + 1) c = step (run i c) := run_add i 1 c

theorem run_np (hok : OpsOK Pc Pb Po Pn Psh) (c : Cfg) (h0 : CoreNP c.core) : ∀ i, CoreNP (run i c).core := by
  intro i
  induction i with
  | zero => exact h0
  | succ i ih => rw [run_succ_right]; exact step_np hok _ _ ih

theorem init_inv (w : World) (bs : List Nat) (namesAddr budget : Nat) (tree : Op) (astNames : List (Name × Op))
    (hw : WorldNP w) (ht : Po tree) (ha : ∀ p, p ∈ astNames → Po p.2) :
    CoreNP (initCfg w bs namesAddr budget tree astNames).core := by
  have hw' : WorldNP { w with vms := w.vms ++ [{ scopes := [namesAddr], ops := 0 }] } :=
    ⟨hw.heap, hw.rx, hw.probes⟩
  cases astNames with
  | nil => exact ⟨ht, fun fr hfr => (by cases hfr), hw'⟩
  | cons p rest =>
    obtain ⟨n, op⟩ := p
    refine ⟨ha (n, op) (by simp), ?_, hw'⟩
    intro fr hfr
    simp only [initCfg, Cfg.core, List.mem_singleton] at hfr
    subst hfr
    exact ⟨fun q hq => ha q (by simp [hq]), ht⟩

theorem WorldNPg.mono {Pc' : List Op → Op → Nat → Prop} {Pb' Pq' : String → Prop}
    (hc : ∀ ps b vm, Pc ps b vm → Pc' ps b vm) (hb : ∀ n, Pb n → Pb' n) (hq : ∀ q, Pq q → Pq' q) {w : World}
    (h : WorldNPg Pc Pb Pq Pr w) : WorldNPg Pc' Pb' Pq' Pr w :=
  have hv : ∀ v, NP v → NPg Pc' Pb' Pq' Pr v := fun _ => NPg.mono hc hb hq
  ⟨⟨fun a o hg => ObjP.imp hv (h.heap.1 a o hg), h.heap.2⟩, RxP.imp hv h.rx, h.probes.imp hv⟩

/- `PDg` asks in addition that the type object `dict` does not occur as a value (unless opaque objects are allowed).  Nothing
   above needs it: `callPure` turns `dict` away before the two entries that would subscript it are reached (finding D15,
   `head_ne_dict_of_guard`).  The statements below carry it as a hypothesis and follow by weakening. -/

inductive PDg (Pc : List Op → Op → Nat → Prop) (Pb : String → Prop) (Pq : String → Prop) (Pr : Nat → Prop) : Val → Prop
  | none : PDg Pc Pb Pq Pr .none
  | bool {x} : PDg Pc Pb Pq Pr (.bool x)
  | dec {d c} : PDg Pc Pb Pq Pr (.dec d c)
  | int {i} : PDg Pc Pb Pq Pr (.int i)
  | str {s} : PDg Pc Pb Pq Pr (.str s)
  | slice {x y z} : PDg Pc Pb Pq Pr (.slice x y z)
  | ref {a} : Pr a → PDg Pc Pb Pq Pr (.ref a)
  | builtin {n} : Pb n → (n ≠ "dict" ∨ ∀ q, Pq q) → PDg Pc Pb Pq Pr (.builtin n)
  | closure {ps body vm} : Pc ps body vm → PDg Pc Pb Pq Pr (.closure ps body vm)
  | host {i} : PDg Pc Pb Pq Pr (.host i)
  | opaque {s} : Pq s → PDg Pc Pb Pq Pr (.opaque s)
  | tuple {vs} : (∀ v, v ∈ vs → PDg Pc Pb Pq Pr v) → PDg Pc Pb Pq Pr (.tuple vs)

local macro "PD" : term => `(PDg Pc Pb Pq Pr)

theorem PDg.np {v : Val} (h : PD v) : NP v := by
  induction h with
  | ref h => exact .ref h
  | builtin hb _ => exact .builtin hb
  | closure hc => exact .closure hc
  | «opaque» hq => exact .opaque hq
  | tuple _ ih => exact .tuple ih
  | _ => constructor

theorem PDg.not_dict {v : Val} (h : PD v) : v ≠ .builtin "dict" ∨ ∀ q, Pq q := by
  by_cases e : v = .builtin "dict"
  · subst e; cases h with | builtin _ hn => exact hn.imp (fun hn => absurd rfl hn) id
  · exact Or.inl e

variable (Pc Pb Pq Pr) in
def AllPDg (vs : List Val) : Prop := ∀ v, v ∈ vs → PD v
local macro "AllPD" : term => `(AllPDg Pc Pb Pq Pr)
theorem AllPDg.np {vs : List Val} (h : AllPD vs) : AllNP vs := fun v hv => (h v hv).np
theorem AllPDg.head_ne {vs : List Val} (h : AllPD vs) : vs.head? ≠ some (.builtin "dict") ∨ ∀ q, Pq q := by
  cases vs with
  | nil => simp
  | cons x r => simp; exact (h x (by simp)).not_dict

variable (Pc Pb Pq Pr) in
def ObjPDg : HObj → Prop
  | .list xs => AllPD xs
  | .dict kvs => ∀ kv, kv ∈ kvs → PD kv.1 ∧ PD kv.2
local macro "ObjPD" : term => `(ObjPDg Pc Pb Pq Pr)
variable (Pc Pb Pq Pr) in
def HeapPDg (h : Heap) : Prop := (∀ a o, h.get? a = some o → ObjPD o) ∧ ∀ a, h.size ≤ a → Pr a
local macro "HeapPD" : term => `(HeapPDg Pc Pb Pq Pr)
theorem HeapPDg.np {h : Heap} (hh : HeapPD h) : HeapNP h :=
  ⟨fun a o hg => ObjP.imp (fun _ => PDg.np) (hh.1 a o hg), hh.2⟩

variable (Pc Pb Pq Pr) in
structure WorldPDg (w : World) : Prop where
  heap : HeapPD w.heap
  rx : RxP PD w.rx
  probes : ProbesP PD w.probes

local macro "WorldPD" : term => `(WorldPDg Pc Pb Pq Pr)

variable (Pc Pb Pq Pr Po Pn Psh) in
structure CorePDg (c : Core) : Prop where
  ctl : CtlP PD c.ctl
  frames : ∀ fr, fr ∈ c.k → FrameP PD fr
  world : WorldPD c.w

local macro "CorePD" : term => `(CorePDg Pc Pb Pq Pr Po Pn Psh)

theorem WorldPDg.np {w : World} (h : WorldPD w) : WorldNP w :=
  ⟨h.heap.np, h.rx.imp fun _ => PDg.np, h.probes.imp fun _ => PDg.np⟩

theorem heap_listPD {h : Heap} (hh : HeapPD h) {a : Nat} {xs : List Val} (hg : h.get? a = some (.list xs)) : AllPD xs :=
  hh.1 a _ hg

variable (Pc Pb Pq Pr Po Pn Psh M) in
/-- what the `shortK` arm of `resume` may change, in configurations free of `dict` -/
def InplOKg : Prop :=
  ∀ n sk vm v k (w : World), FrameP PD (.shortK n sk vm) → PD v → WorldPD w → HStepM M w (resume (.shortK n sk vm) v k w).w

theorem CorePDg.np {c : Core} (h : CorePD c) : CoreNP c :=
  ⟨h.ctl.imp fun _ => PDg.np, fun fr hfr => (h.frames fr hfr).imp fun _ => PDg.np, h.world.np⟩

theorem inv_step (hok : OpsOK Pc Pb Po Pn Psh) (budgets : List Nat) (c : Core) (hc : CorePD c) : CoreNP (stepCore budgets c) :=
  step_np hok budgets c hc.np

theorem inv_run (hok : OpsOK Pc Pb Po Pn Psh) (hq : ∀ q, Pq q) (c : Cfg) (h0 : CoreNP c.core) :
    ∀ i, CoreNP (run i c).core := run_np hok c h0

end Sq.Inv
