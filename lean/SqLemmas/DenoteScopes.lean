/-
  Every evaluation of a node and every application of a function value leaves the scope
  stack of every VM as it found it, whether it returns or raises: the machine's scope discipline (`run_bal`) read through
  the soundness of the semantics (a finished evaluation has used up its continuation, so no lambda scope is pending).
-/
import SqLemmas.DenoteSound
set_option autoImplicit false
namespace Sq.Den

variable {B : List Nat}

theorem evalOp_keeps_scopes (f : Nat) (op : Op) (vmi : Nat) (w : World) (o : Out) (w' : World)
    (h : evalOp B f op vmi w = some (o, w')) (i : Nat) : scopesAt w' i = scopesAt w i :=
  fin_keeps_scopes ((sound f).op op vmi w o w' h) i rfl

theorem applyVal_keeps_scopes (f tf : Nat) (fn : Val) (args : List Val) (w : World) (o : Out) (w' : World)
    (h : applyVal B f tf fn args w = some (o, w')) (i : Nat) : scopesAt w' i = scopesAt w i :=
  fin_keeps_scopes ((sound f).call tf fn args w o w' h) i (((call_local tf).1 fn args w).bal_at [] i)

end Sq.Den
