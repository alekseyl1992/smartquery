/-
  Lists through the heap (C14): under any sequence of push / pop / insert / index write / del on a list object, the object
  holds what the mathematical list holds after the same operations, nothing else changes, and an operation the specification
  refuses fails and changes nothing.  The specification (`specL`) is Python's list semantics written independently of the
  builtins.  On the way: what each of these builtins computes on a list object (`b_push_list` … `bDelItem_list`, and
  `pyGetItem_list_slice` for the slice theorems), and what a successful `push`, `insert` or store `c[k] = v` must have done
  (`b_push_inv`, `b_insert_inv`, `pySetItem_inv`, `bSetItem_inv`: what the invariants and the size bounds of C03 use).
-/
import Sq.Builtins
import SqLemmas.HeapLemmas
namespace Sq

/-- one operation on a list, indices already cast to integers -/
inductive LOp
  | push (v : Val)
  | popLast
  | popAt (i : Int)
  | insert (k : Int) (v : Val)
  | set (i : Int) (v : Val)
  | del (i : Int)

/-- the builtins' `normIndex` written a second time on purpose: the specification does not borrow from the model
    (`normIndex_eq_pos`) -/
def pos? (n : Nat) (i : Int) : Option Nat :=
  if 0 ≤ i ∧ i < n then some i.toNat else if i < 0 ∧ 0 ≤ i + n then some (i + n).toNat else none

/-- `none`: the operation is refused.  10000 is `MAX_ARRAY_SIZE` of functions.py, as a number and not as `maxArraySize`, for
    the same reason.  `del` at `i ≥ len` does nothing: `_del` guards with `len(container) > key`. -/
def specL (xs : List Val) : LOp → Option (List Val)
  | .push v => if xs.length ≥ 10000 then none else some (xs ++ [v])
  | .popLast => if xs.length = 0 then none else some (xs.take (xs.length - 1))
  | .popAt i => (pos? xs.length i).map (fun j => xs.take j ++ xs.drop (j + 1))
  | .insert k v =>
    if xs.length ≥ 10000 then none else
    let j : Nat := if k < 0 then (if k + xs.length < 0 then 0 else (k + xs.length).toNat) else (if k > xs.length then xs.length else k.toNat)
    some (xs.take j ++ v :: xs.drop j)
  | .set i v => (pos? xs.length i).map (fun j => xs.take j ++ v :: xs.drop (j + 1))
  | .del i => if i ≥ xs.length then some xs else (pos? xs.length i).map (fun j => xs.take j ++ xs.drop (j + 1))

/-- the builtins for the same operations; `set` is the store of `c[i] = v` after key cast and copy -/
def implL (s : BState) (a : Nat) : LOp → R BState
  | .push v => (b_push [.ref a, v] s).map (·.2)
  | .popLast => (b_pop [.ref a] s).map (·.2)
  | .popAt i => (b_pop [.ref a, .int i] s).map (·.2)
  | .insert k v => (b_insert [.ref a, .int k, v] s).map (·.2)
  | .set i v => pySetItem s (.ref a) (.int i) v
  | .del i => (bDelItem s (.ref a) (.int i)).map (·.2)

theorem normIndex_eq_pos (n : Nat) (i : Int) : normIndex n i = pos? n i := by
  unfold normIndex pos?
  by_cases h0 : i < 0
  · have h1 : ¬ 0 ≤ i := Int.not_le.mpr h0
    have h2 : i + (n : Int) < n := by omega
    simp [h0, h1, h2]
  · simp [h0]

theorem insert_pos_eq (k : Int) (n : Nat) : (if k < 0 then max 0 (k + (n : Int)) else min k (n : Int)).toNat =
    (if k < 0 then (if k + (n : Int) < 0 then 0 else (k + (n : Int)).toNat) else (if k > (n : Int) then n else k.toNat)) := by
  split
  · split
    · rename_i h; rw [Int.max_eq_left (Int.le_of_lt h)]; rfl
    · rename_i h; rw [Int.max_eq_right (Int.not_lt.mp h)]
  · split
    · rename_i h; rw [Int.min_eq_right (Int.le_of_lt h), Int.toNat_natCast]
    · rename_i h; rw [Int.min_eq_left (Int.not_lt.mp h)]

theorem pos_lt {n : Nat} {i : Int} {j : Nat} (h : pos? n i = some j) : j < n := by
  unfold pos? at h
  split at h
  · rename_i hi
    cases h
    exact (Int.toNat_lt hi.1).mpr hi.2
  · split at h
    · rename_i hi
      cases h
      exact (Int.toNat_lt hi.2).mpr (by omega)
    · cases h

/-- what a refusal becomes: a language-level error, never `unmodelled` -/
def Refusal : PyErr → Prop
  | .parser _ => True
  | .indexError => True
  | _ => False

theorem checkArraySize_list {h : Heap} {a : Nat} {xs : List Val} (hg : h.get? a = some (.list xs)) :
    checkArraySize h (.ref a) = if xs.length ≥ maxArraySize then .error (.parser "Array size overflow") else .ok () := by
  simp only [checkArraySize, pyLen, hg]

theorem b_push_list {s : BState} {a : Nat} {xs : List Val} (hg : s.heap.get? a = some (.list xs)) (v : Val) :
    b_push [.ref a, v] s = if xs.length ≥ maxArraySize then .error (.parser "Array size overflow")
      else ret .none { s with heap := s.heap.set a (.list (xs ++ [v])) } := by
  simp only [b_push, checkArraySize_list hg]
  by_cases hc : xs.length ≥ maxArraySize <;> simp only [hc, ↓reduceIte, hg]

theorem b_push_inv {args : List Val} {s : BState} {v : Val} {s' : BState} (h : b_push args s = .ok (v, s')) :
    ∃ a x xs, args = [.ref a, x] ∧ s.heap.get? a = some (.list xs) ∧ xs.length < maxArraySize ∧ v = .none ∧
      s' = { s with heap := s.heap.set a (.list (xs ++ [x])) } := by
  unfold b_push at h
  split at h
  · split at h
    · cases h
    · rename_i hc
      split at h
      · split at h
        · rename_i hg
          rw [checkArraySize_list hg] at hc
          split at hc
          · cases hc
          · cases h; exact ⟨_, _, _, rfl, hg, by omega, rfl, rfl⟩
        · cases h
      · cases h
      · cases h
  · cases h

theorem b_insert_list {s : BState} {a : Nat} {xs : List Val} (hg : s.heap.get? a = some (.list xs)) (i v : Val) :
    b_insert [.ref a, i, v] s = if xs.length ≥ maxArraySize then .error (.parser "Array size overflow")
      else match intArg i with
        | .error e => .error e
        | .ok k => ret .none { s with heap := s.heap.set a (.list
            (xs.take (if k < 0 then max 0 (k + xs.length) else min k xs.length).toNat ++
              v :: xs.drop (if k < 0 then max 0 (k + xs.length) else min k xs.length).toNat)) } := by
  simp only [b_insert, checkArraySize_list hg]
  by_cases hc : xs.length ≥ maxArraySize
  · simp only [hc, ↓reduceIte]
  · simp only [hc, ↓reduceIte, hg]; rfl

/-- the position `j` is left open: the users need the length of the new list and that its elements are the old ones and
    `x`, not where `x` went (`b_insert_list` has the position) -/
theorem b_insert_inv {args : List Val} {s : BState} {v : Val} {s' : BState} (h : b_insert args s = .ok (v, s')) :
    ∃ a i x xs j, args = [.ref a, i, x] ∧ s.heap.get? a = some (.list xs) ∧ xs.length < maxArraySize ∧ v = .none ∧
      s' = { s with heap := s.heap.set a (.list (xs.take j ++ x :: xs.drop j)) } := by
  unfold b_insert at h
  split at h
  · split at h
    · cases h
    · rename_i hc
      split at h
      · split at h
        · rename_i hg
          rw [checkArraySize_list hg] at hc
          split at hc
          · cases hc
          · split at h
            · cases h
            · cases h; exact ⟨_, _, _, _, _, rfl, hg, by omega, rfl, rfl⟩
        · cases h
      · cases h
      · cases h
  · cases h

theorem b_pop_list {s : BState} {a : Nat} {xs : List Val} (hg : s.heap.get? a = some (.list xs)) :
    b_pop [.ref a] s = match xs.getLast? with
      | none => .error (.parser "pop from empty list")
      | some v => ret v { s with heap := s.heap.set a (.list xs.dropLast) } := by
  simp only [b_pop, hg]
  rcases List.eq_nil_or_concat xs with rfl | ⟨ys, x, rfl⟩
  · rfl
  · simp [List.eraseIdx_append_of_length_le]

theorem b_pop_at_list {s : BState} {a : Nat} {xs : List Val} (hg : s.heap.get? a = some (.list xs)) (i : Int) :
    b_pop [.ref a, .int i] s = if xs.isEmpty then .error (.parser "pop from empty list") else
      match normIndex xs.length i with
      | some j => (match xs[j]? with
        | some v => ret v { s with heap := s.heap.set a (.list (xs.eraseIdx j)) }
        | none => .error (.parser "pop index out of range"))
      | none => .error (.parser "pop index out of range") := by
  simp only [b_pop, hg, intArg, pyInt]
  rfl

theorem isDict_list {h : Heap} {a : Nat} {xs : List Val} (hg : h.get? a = some (.list xs)) : isDict h (.ref a) = false := by
  simp only [isDict, hg]

theorem isDict_dict {h : Heap} {a : Nat} {kvs : List (Val × Val)} (hg : h.get? a = some (.dict kvs)) :
    isDict h (.ref a) = true := by
  simp only [isDict, hg]

theorem keyCast_dict (h : Heap) (c k : Val) (hd : isDict h c = true) : keyCast h c k = dictKeyCast h k := if_pos hd

theorem keyCast_list (h : Heap) (c k : Val) (hd : isDict h c = false) : keyCast h c k = .ok (listKeyCast k) :=
  if_neg (hd ▸ Bool.false_ne_true)

theorem pySetItem_list {s : BState} {a : Nat} {xs : List Val} (hg : s.heap.get? a = some (.list xs)) (i : Int) (v : Val) :
    pySetItem s (.ref a) (.int i) v = match normIndex xs.length i with
      | some j => .ok { s with heap := s.heap.set a (.list (xs.set j v)) }
      | none => .error .indexError := by
  simp only [pySetItem, hg, toInt?]
  rfl

/-- the shape of a successful store `c[k] = v` (key already cast): `c` is a list object, the element at the key's
    position replaced, or a dict object, in which `dictSet` binds the key -/
theorem pySetItem_inv {s s' : BState} {c k v : Val} (h : pySetItem s c k v = .ok s') :
    ∃ a, c = .ref a ∧
      ((∃ xs i j, s.heap.get? a = some (.list xs) ∧ toInt? k = some i ∧ normIndex xs.length i = some j ∧
          s' = { s with heap := s.heap.set a (.list (xs.set j v)) }) ∨
       ∃ kvs kvs', s.heap.get? a = some (.dict kvs) ∧ dictSet s.heap kvs k v = .ok kvs' ∧
         s' = { s with heap := s.heap.set a (.dict kvs') }) := by
  unfold pySetItem at h
  split at h
  · refine ⟨_, rfl, ?_⟩
    split at h
    · rename_i hg
      split at h
      · cases h
      · cases h
      · split at h
        · rename_i i hi
          split at h
          · rename_i j hj
            cases h; exact .inl ⟨_, i, j, hg, hi, hj, rfl⟩
          · cases h
        · cases h
    · rename_i hg
      split at h
      · cases h
      · split at h
        · rename_i hd
          cases h; exact .inr ⟨_, _, hg, hd, rfl⟩
        · cases h
    · cases h
  · cases h
  · cases h

/-- `c[k] = v` returns only after its four steps: the size check, the key cast, the copy of the operand, the store -/
theorem bSetItem_inv {s : BState} {c k v r : Val} {s' : BState} (h : bSetItem s c k v = .ok (r, s')) :
    ∃ k' v' h', checkArraySize s.heap c = .ok () ∧ keyCast s.heap c k = .ok k' ∧ deepcopy' s.heap v = .ok (v', h') ∧
      pySetItem { s with heap := h' } c k' v' = .ok s' ∧ r = v := by
  unfold bSetItem at h
  split at h
  · cases h
  · rename_i hc
    split at h
    · cases h
    · rename_i k' hk
      split at h
      · cases h
      · rename_i v' h' hd
        split at h
        · rename_i hp
          cases h
          exact ⟨k', v', h', hc, hk, hd, hp, rfl⟩
        · cases h

theorem pyGetItem_list_slice {s : BState} {a : Nat} {xs : List Val} (hg : s.heap.get? a = some (.list xs))
    (lo hi st : Option Int) :
    pyGetItem s (.ref a) (.slice lo hi st) = match sliceIndices xs.length lo hi st with
      | .ok idx => .ok (allocList s (pick xs idx))
      | .error e => .error e := by
  simp only [pyGetItem, hg]
  rfl

theorem bDelItem_list {s : BState} {a : Nat} {xs : List Val} (hg : s.heap.get? a = some (.list xs)) (i : Int) :
    bDelItem s (.ref a) (.int i) = if (xs.length : Int) > i then
        match normIndex xs.length i with
        | some j => ret .none { s with heap := s.heap.set a (.list (xs.eraseIdx j)) }
        | none => .error .indexError
      else ret .none s := by
  simp only [bDelItem, keyCast_list _ _ _ (isDict_list hg), hg, listKeyCast, toInt?]
  rfl

theorem implL_refines (s : BState) (a : Nat) (xs : List Val) (hg : s.heap.get? a = some (.list xs)) (op : LOp) :
    match specL xs op with
    | some ys => implL s a op = .ok { s with heap := s.heap.set a (.list ys) }
    | none => ∃ e, implL s a op = .error e ∧ Refusal e := by
  cases op with
  | push v =>
    simp only [specL, implL, b_push_list hg, maxArraySize]
    by_cases hc : xs.length ≥ 10000
    · simp only [hc, if_true]
      exact ⟨_, rfl, trivial⟩
    · simp only [hc, if_false, ret, Except.map]
  | popLast =>
    simp only [specL, implL, b_pop_list hg]
    rcases List.eq_nil_or_concat xs with rfl | ⟨ys, x, rfl⟩
    · exact ⟨_, rfl, trivial⟩
    · simp [ret, Except.map, List.dropLast_eq_take]
  | popAt i =>
    simp only [specL, implL, b_pop_at_list hg, normIndex_eq_pos]
    cases hp : pos? xs.length i with
    | none =>
      simp only [Option.map_none]
      split <;> exact ⟨_, rfl, trivial⟩
    | some j =>
      have hj := pos_lt hp
      have hne : xs.isEmpty = false := by cases xs <;> simp_all
      simp [hne, ret, Except.map, List.getElem?_eq_getElem hj, List.eraseIdx_eq_take_drop_succ]
  | insert k v =>
    simp only [specL, implL, b_insert_list hg, intArg, pyInt, maxArraySize]
    by_cases hc : xs.length ≥ 10000
    · simp only [hc, if_true]
      exact ⟨_, rfl, trivial⟩
    · simp only [hc, if_false, ret, Except.map, insert_pos_eq]
  | set i v =>
    simp only [specL, implL, pySetItem_list hg, normIndex_eq_pos]
    cases hp : pos? xs.length i with
    | none => exact ⟨_, rfl, trivial⟩
    | some j => simp [List.set_eq_take_append_cons_drop, pos_lt hp]
  | del i =>
    simp only [specL, implL, bDelItem_list hg, normIndex_eq_pos]
    by_cases hge : i ≥ (xs.length : Int)
    · have hng : ¬ ((xs.length : Int) > i) := by omega
      simp only [hge, hng, if_true, if_false, ret, Except.map, heap_set_same s.heap a _ hg]
    · have hgt : (xs.length : Int) > i := by omega
      simp only [hge, hgt, if_true, if_false]
      cases hp : pos? xs.length i with
      | none => exact ⟨_, rfl, trivial⟩
      | some j => simp [ret, Except.map, List.eraseIdx_eq_take_drop_succ]

def runSpecL (xs : List Val) (ops : List LOp) : List Val := ops.foldl (fun xs op => (specL xs op).getD xs) xs

def runImplL (s : BState) (a : Nat) (ops : List LOp) : BState :=
  ops.foldl (fun s op => match implL s a op with | .ok s' => s' | .error _ => s) s

theorem ops_refine_list (ops : List LOp) : ∀ (s : BState) (a : Nat) (xs : List Val), s.heap.get? a = some (.list xs) →
    (runImplL s a ops).heap.get? a = some (.list (runSpecL xs ops)) ∧
    (∀ b, b ≠ a → (runImplL s a ops).heap.get? b = s.heap.get? b) ∧
    (runImplL s a ops).rng = s.rng ∧ (runImplL s a ops).rx = s.rx := by
  induction ops with
  | nil => intro s a xs hg; exact ⟨hg, fun _ _ => rfl, rfl, rfl⟩
  | cons op ops ih =>
    intro s a xs hg
    have hr := implL_refines s a xs hg op
    simp only [runImplL, runSpecL, List.foldl_cons]
    cases hs : specL xs op with
    | none =>
      rw [hs] at hr
      obtain ⟨e, he, _⟩ := hr
      simp only [he, Option.getD_none]
      exact ih s a xs hg
    | some ys =>
      rw [hs] at hr
      simp only [hr, Option.getD_some]
      obtain ⟨h1, h2, h3, h4⟩ := ih { s with heap := s.heap.set a (.list ys) } a ys (get?_set_self (get_lt hg) _)
      exact ⟨h1, fun b hb => (h2 b hb).trans (get?_set_ne _ (Ne.symm hb) _), h3, h4⟩

end Sq
