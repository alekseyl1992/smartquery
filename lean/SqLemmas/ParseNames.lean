/-
  Every name a parsed tree mentions is the value of a NAME token of the token list it was parsed from, or an implicit name
  (C18).  The induction is source-relative: what a derivation adds to the names of its input trees (the left operand of a
  spine, the accumulator of a list) comes from the tokens it consumes.
-/
import SqLemmas.ParseSound
namespace Sq

/-- `Mentions e x`: the tree `e` contains the identifier `x` — as a variable, a called function, a lambda
    parameter, or the target of an assignment / compound assignment -/
inductive Mentions : Op → Name → Prop
  | name {n} : Mentions (.name n) n
  | callee {n args} : Mentions (.call n args) n
  | arg {n args a x} : a ∈ args → Mentions a x → Mentions (.call n args) x
  | line {ls a x} : a ∈ ls → Mentions a x → Mentions (.code ls) x
  | binL {k a b x} : Mentions a x → Mentions (.bin k a b) x
  | binR {k a b x} : Mentions b x → Mentions (.bin k a b) x
  | unary {k a x} : Mentions a x → Mentions (.unary k a) x
  | target {n v} : Mentions (.assign n v) n
  | assigned {n v x} : Mentions v x → Mentions (.assign n v) x
  | shortTarget {n k v} : Mentions (.short n k v) n
  | shortVal {n k v x} : Mentions v x → Mentions (.short n k v) x
  | ifC {c a b x} : Mentions c x → Mentions (.ifx c a b) x
  | ifA {c a b x} : Mentions a x → Mentions (.ifx c a b) x
  | ifB {c a b x} : Mentions b x → Mentions (.ifx c a b) x
  | sliceA {a b c x} : Mentions a x → Mentions (.slice a b c) x
  | sliceB {a b c x} : Mentions b x → Mentions (.slice a b c) x
  | sliceC {a b c x} : Mentions c x → Mentions (.slice a b c) x
  | entry {kvs a x} : a ∈ kvs → Mentions a x → Mentions (.dict kvs) x
  | param {ps body a x} : a ∈ ps → Mentions a x → Mentions (.lambda ps body) x
  | body {ps body x} : Mentions body x → Mentions (.lambda ps body) x

/-- `C18.implicitNames` as lists of characters (`C18.implicit_list_is_documented`) -/
def implicitNameList : List Name :=
  ["list".toList, "dict".toList, "__getitem__".toList, "__setitem__".toList, "__delitem__".toList,
   "__setitem_with_op__".toList]

def TokName (ts : List Token) (x : Name) : Prop := ∃ t, t ∈ ts ∧ t.ty = .NAME ∧ t.val = x

def OK (ts : List Token) (e : Op) : Prop := ∀ x, Mentions e x → TokName ts x ∨ x ∈ implicitNameList

theorem TokName.head {t : Token} {ts : List Token} (ht : t.ty = .NAME) : TokName (t :: ts) t.val :=
  ⟨t, List.mem_cons_self, ht, rfl⟩

theorem TokName.cons {t : Token} {ts : List Token} {x : Name} (h : TokName ts x) : TokName (t :: ts) x :=
  let ⟨u, hu, h1, h2⟩ := h; ⟨u, List.mem_cons_of_mem _ hu, h1, h2⟩

theorem TokName.left {ts r : List Token} {x : Name} (h : TokName ts x) : TokName (ts ++ r) x :=
  let ⟨u, hu, h1, h2⟩ := h; ⟨u, List.mem_append_left _ hu, h1, h2⟩

theorem TokName.right {l ts : List Token} {x : Name} (h : TokName ts x) : TokName (l ++ ts) x :=
  let ⟨u, hu, h1, h2⟩ := h; ⟨u, List.mem_append_right _ hu, h1, h2⟩

theorem OK.lift {ts ts' : List Token} {e : Op} (h : OK ts e) (f : ∀ x, TokName ts x → TokName ts' x) : OK ts' e :=
  fun x hx => (h x hx).imp_left (f x)

theorem OK.cons {t : Token} {ts : List Token} {e : Op} (h : OK ts e) : OK (t :: ts) e := h.lift fun _ => .cons
theorem OK.left {ts r : List Token} {e : Op} (h : OK ts e) : OK (ts ++ r) e := h.lift fun _ => .left
theorem OK.right {l ts : List Token} {e : Op} (h : OK ts e) : OK (l ++ ts) e := h.lift fun _ => .right

theorem OK.value (ts : List Token) (l : Lit) : OK ts (.value l) := by intro x hx; cases hx

theorem OK.atom {ts : List Token} {t : Token} {e : Op} (h : atomOf t = some e) : OK ts e := by
  rcases atomOf_inv h with ⟨_, d, _, rfl⟩ | ⟨_, rfl⟩ | ⟨_, rfl⟩ | ⟨_, rfl⟩ | ⟨_, rfl⟩ <;> exact OK.value _ _

theorem OK.name {ts : List Token} {n : Name} (h : TokName ts n) : OK ts (.name n) := by
  intro x hx; cases hx; exact .inl h

theorem OK.call {ts : List Token} {n : Name} {args : List Op} (hn : TokName ts n ∨ n ∈ implicitNameList)
    (ha : ∀ a, a ∈ args → OK ts a) : OK ts (.call n args) := by
  intro x hx
  cases hx with
  | callee => exact hn
  | arg hm hx => exact ha _ hm x hx

theorem OK.unary {ts : List Token} {k : UnK} {a : Op} (ha : OK ts a) : OK ts (.unary k a) := by
  intro x hx; cases hx with | unary h => exact ha x h

theorem OK.slice {ts : List Token} {a b c : Op} (ha : OK ts a) (hb : OK ts b) (hc : OK ts c) : OK ts (.slice a b c) := by
  intro x hx
  cases hx with
  | sliceA h => exact ha x h
  | sliceB h => exact hb x h
  | sliceC h => exact hc x h

theorem OK.dict {ts : List Token} {kvs : List Op} (h : ∀ a, a ∈ kvs → OK ts a) : OK ts (.dict kvs) := by
  intro x hx; cases hx with | entry hm hx => exact h _ hm x hx

theorem OK.lambda {ts : List Token} {ps : List Op} {body : Op} (hp : ∀ a, a ∈ ps → OK ts a) (hb : OK ts body) :
    OK ts (.lambda ps body) := by
  intro x hx
  cases hx with
  | param hm hx => exact hp _ hm x hx
  | body h => exact hb x h

theorem OK.assign {ts : List Token} {n : Name} {v : Op} (hn : TokName ts n) (hv : OK ts v) : OK ts (.assign n v) := by
  intro x hx
  cases hx with
  | target => exact .inl hn
  | assigned h => exact hv x h

theorem OK.short {ts : List Token} {n : Name} {k : ShortK} {v : Op} (hn : TokName ts n) (hv : OK ts v) :
    OK ts (.short n k v) := by
  intro x hx
  cases hx with
  | shortTarget => exact .inl hn
  | shortVal h => exact hv x h

theorem OK.noneOp (ts : List Token) : OK ts noneOp := OK.value _ _

theorem impl_list : "list".toList ∈ implicitNameList := .head _
theorem impl_dict : "dict".toList ∈ implicitNameList := .tail _ (.head _)
theorem impl_getitem : "__getitem__".toList ∈ implicitNameList := .tail _ (.tail _ (.head _))
theorem impl_setitem : "__setitem__".toList ∈ implicitNameList := .tail _ (.tail _ (.tail _ (.head _)))
theorem impl_delitem : "__delitem__".toList ∈ implicitNameList := .tail _ (.tail _ (.tail _ (.tail _ (.head _))))
theorem impl_setop : "__setitem_with_op__".toList ∈ implicitNameList :=
  .tail _ (.tail _ (.tail _ (.tail _ (.tail _ (.head _)))))

def OKFrom (l : Op) (ts : List Token) (t : Op) : Prop :=
  ∀ x, Mentions t x → Mentions l x ∨ TokName ts x ∨ x ∈ implicitNameList

theorem OKFrom.bin {l r : Op} {k : BinK} {ts : List Token} (hr : OK ts r) : OKFrom l ts (.bin k l r) := by
  intro x hx
  cases hx with
  | binL h => exact .inl h
  | binR h => exact .inr (hr x h)

theorem OKFrom.ifx {l c e : Op} {ts : List Token} (hc : OK ts c) (he : OK ts e) : OKFrom l ts (.ifx c l e) := by
  intro x hx
  cases hx with
  | ifC h => exact .inr (hc x h)
  | ifA h => exact .inl h
  | ifB h => exact .inr (he x h)

/-- `l[k]`, `l.f(args)`, `l | f(args)`: a call with `l` as first argument -/
theorem OKFrom.call {l : Op} {n : Name} {args : List Op} {ts : List Token} (hn : TokName ts n ∨ n ∈ implicitNameList)
    (ha : ∀ a, a ∈ args → OK ts a) : OKFrom l ts (.call n (l :: args)) := by
  intro x hx
  cases hx with
  | callee => exact .inr hn
  | arg hm hx =>
    rcases List.mem_cons.mp hm with rfl | hm
    · exact .inl hx
    · exact .inr (ha _ hm x hx)

theorem OKFrom.step {l l' t : Op} {ts rest : List Token} (hl' : OKFrom l ts l') (ih : OKFrom l' rest t)
    (hrest : ∀ x, TokName rest x → TokName ts x) : OKFrom l ts t :=
  fun x hx => (ih x hx).elim (hl' x) fun h => .inr (h.imp_left (hrest x))

theorem OKFrom.ok {l t : Op} {pre ts : List Token} (h : OKFrom l ts t) (hl : OK pre l) : OK (pre ++ ts) t :=
  fun x hx => (h x hx).elim (fun hm => (hl x hm).imp_left .left) (Or.imp_left .right)

/-- the list loops keep `a ∈ out → a ∈ acc ∨ OK ts a`: in the accumulator already, or from the consumed tokens -/
theorem accOK_last {new acc : List Op} {ts : List Token} (hnew : ∀ a, a ∈ new → OK ts a) :
    ∀ a, a ∈ (new ++ acc).reverse → a ∈ acc ∨ OK ts a :=
  fun a h => (List.mem_append.mp (List.mem_reverse.mp h)).elim (fun h => .inr (hnew a h)) .inl

theorem accOK_step {new acc out : List Op} {ts rest : List Token} (hnew : ∀ a, a ∈ new → OK ts a)
    (ih : ∀ a, a ∈ out → a ∈ new ++ acc ∨ OK rest a) (hrest : ∀ x, TokName rest x → TokName ts x) :
    ∀ a, a ∈ out → a ∈ acc ∨ OK ts a :=
  fun a h => (ih a h).elim (fun hm => (List.mem_append.mp hm).elim (fun h => .inr (hnew a h)) .inl)
    fun h => .inr (h.lift hrest)

theorem allOK_of_acc {acc out : List Op} {ts ts' : List Token} (h : ∀ a, a ∈ out → a ∈ acc ∨ OK ts a)
    (hacc : ∀ a, a ∈ acc → OK ts' a) (f : ∀ x, TokName ts x → TokName ts' x) : ∀ a, a ∈ out → OK ts' a :=
  fun a hm => (h a hm).elim (hacc a) fun h => h.lift f

theorem OK.item {tsk tsv r : List Token} {col : Token} {k v : Op} (hk : OK tsk k) (hv : OK tsv v) :
    ∀ a, a ∈ [v, k] → OK (tsk ++ col :: tsv ++ r) a :=
  List.forall_mem_cons.mpr ⟨hv.cons.right.left, List.forall_mem_singleton.mpr hk.left.left⟩

theorem n_all :
    RAll (fun _ _ ts t _ _ => OK ts t) (fun ts t _ => OK ts t) (fun _ _ l _ ts t _ _ => OKFrom l ts t)
      (fun _ ts out => ∀ a, a ∈ out → OK ts a)
      (fun _ acc ts out => ∀ a, a ∈ out → a ∈ acc ∨ OK ts a)
      (fun acc ts out => ∀ a, a ∈ out → a ∈ acc ∨ OK ts a)
      (fun acc ts out => ∀ a, a ∈ out → a ∈ acc ∨ OK ts a)
      (fun ts k _ => OK ts k) :=
  RAll.induct
    (expr_mk := fun _ _ ihp ihs => ihs.ok ihp)
    (prim_atom := fun ha => OK.atom ha)
    (prim_name := fun ht _ _ => OK.name (.head ht))
    (prim_call0 := fun hn _ _ => OK.call (.inl (.head hn)) (List.forall_mem_nil _))
    (prim_call := fun hn _ _ iha => OK.call (.inl (.head hn)) fun a h => (iha a h).cons.cons)
    (prim_lam1 := fun hn _ _ ihe => OK.lambda (List.forall_mem_singleton.mpr (OK.name (.head hn))) ihe.cons.cons)
    (prim_paren := fun _ _ _ ihe => ihe.cons.left)
    (prim_lamN := fun _ _ _ _ _ _ ih0 ihp ihb =>
      OK.lambda (allOK_of_acc ihp (List.forall_mem_singleton.mpr ih0.cons.left.left) fun _ h => h.cons.right.left)
        ihb.cons.right)
    (prim_list0 := fun _ _ => OK.call (.inr impl_list) (List.forall_mem_nil _))
    (prim_list := fun _ _ iha => OK.call (.inr impl_list) fun a h => (iha a h).cons)
    (prim_dict0 := fun _ _ => OK.call (.inr impl_dict) (List.forall_mem_nil _))
    (prim_dict := fun _ _ ihd => OK.dict (allOK_of_acc ihd (List.forall_mem_nil _) fun _ => .cons))
    (prim_neg := fun _ _ ihe => OK.unary ihe.cons)
    (prim_not := fun _ _ ihe => OK.unary ihe.cons)
    (spine_nil := fun _ _ h => .inl h)
    (spine_bin := fun _ _ _ _ ihe ihs => OKFrom.step (OKFrom.bin ihe.cons.left) ihs fun _ => .right)
    (spine_notin := fun _ _ _ _ _ ihe ihs => OKFrom.step (OKFrom.bin ihe.cons.cons.left) ihs fun _ => .right)
    (spine_ifx := fun _ _ _ _ _ _ ihc ihe ihs =>
      OKFrom.step (OKFrom.ifx ihc.cons.left.left ihe.cons.right.left) ihs fun _ => .right)
    (spine_index := fun _ _ _ _ ihk ihs =>
      OKFrom.step (OKFrom.call (.inr impl_getitem) (List.forall_mem_singleton.mpr ihk.cons.left)) ihs fun _ => .right)
    (spine_dot0 := fun _ _ hn _ _ _ ihs =>
      OKFrom.step (OKFrom.call (.inl (TokName.head hn).cons) (List.forall_mem_nil _)) ihs fun _ h => h.cons.cons.cons.cons)
    (spine_dot := fun _ _ hn _ _ _ iha ihs =>
      OKFrom.step (OKFrom.call (.inl (TokName.head hn).cons.left) fun a h => (iha a h).cons.cons.cons.left) ihs fun _ => .right)
    (spine_pipe0 := fun _ _ hn _ _ ihs =>
      OKFrom.step (OKFrom.call (.inl (TokName.head hn).cons) (List.forall_mem_nil _)) ihs fun _ h => h.cons.cons)
    (spine_pipe := fun _ _ hn _ _ _ iha ihs =>
      OKFrom.step (OKFrom.call (.inl (TokName.head hn).cons.left) fun a h => (iha a h).cons.cons.cons.left) ihs fun _ => .right)
    (args_mk := fun _ _ ihe iht => allOK_of_acc iht (List.forall_mem_singleton.mpr ihe.left) fun _ => .right)
    (tail_close := fun _ _ => accOK_last (new := []) (List.forall_mem_nil _))
    (tail_trailing := fun _ _ => accOK_last (new := []) (List.forall_mem_nil _))
    (tail_more := fun _ _ _ _ ihe iht =>
      accOK_step (new := [_]) (List.forall_mem_singleton.mpr ihe.cons.left) iht fun _ => .right)
    (dict_last := fun _ _ _ _ ihk ihv => accOK_last (OK.item ihk ihv))
    (dict_lastComma := fun _ _ _ _ _ ihk ihv => accOK_last (OK.item ihk ihv))
    (dict_more := fun _ _ _ _ _ _ ihk ihv ihd => accOK_step (OK.item ihk ihv) ihd fun _ h => h.cons.right)
    (params_last := fun hn _ => accOK_last (new := [_]) (List.forall_mem_singleton.mpr (OK.name (.head hn))))
    (params_more := fun _ _ _ _ ihe ihp =>
      accOK_step (new := [_]) (List.forall_mem_singleton.mpr ihe.left) ihp fun _ h => h.cons.right)
    (sub_idx := fun _ _ ihe => ihe.left)
    (sub_all := fun _ _ => OK.slice (OK.noneOp _) (OK.noneOp _) (OK.noneOp _))
    (sub_step := fun _ _ _ _ ihe => OK.slice (OK.noneOp _) (OK.noneOp _) ihe.cons.cons.left)
    (sub_stop := fun _ _ _ ihe => OK.slice (OK.noneOp _) ihe.cons.left (OK.noneOp _))
    (sub_stopColon := fun _ _ _ _ ihe => OK.slice (OK.noneOp _) ihe.cons.left (OK.noneOp _))
    (sub_start := fun _ _ _ ihe => OK.slice ihe.left (OK.noneOp _) (OK.noneOp _))
    (sub_startColon := fun _ _ _ _ ihe => OK.slice ihe.left (OK.noneOp _) (OK.noneOp _))
    (sub_startStop := fun _ _ _ _ ihe ihe2 => OK.slice ihe.left.left ihe2.cons.right.left (OK.noneOp _))

theorem nExpr : ∀ {m a ts t b nxt}, RExpr m a ts t b nxt → OK ts t := n_all.expr

theorem nArgs : ∀ {close ts out}, RArgs close ts out → ∀ a, a ∈ out → OK ts a := n_all.args

theorem nSub : ∀ {ts k plain}, RSub ts k plain → OK ts k := n_all.sub

theorem nSpine : ∀ {m a l b ts t bt nxt}, RSpine m a l b ts t bt nxt → ∀ pre, OK pre l → OK (pre ++ ts) t :=
  fun h _ hl => (n_all.spine h).ok hl

theorem nArgsTail : ∀ {close acc ts out}, RArgsTail close acc ts out →
    ∀ pre, (∀ a, a ∈ acc → OK pre a) → ∀ a, a ∈ out → OK (pre ++ ts) a :=
  fun h _ hacc => allOK_of_acc (n_all.tail h) (fun a h => (hacc a h).left) fun _ => .right

theorem nDict : ∀ {acc ts out}, RDict acc ts out →
    ∀ pre, (∀ a, a ∈ acc → OK pre a) → ∀ a, a ∈ out → OK (pre ++ ts) a :=
  fun h _ hacc => allOK_of_acc (n_all.dict h) (fun a h => (hacc a h).left) fun _ => .right

theorem nParams : ∀ {acc ts out}, RParams acc ts out →
    ∀ pre, (∀ a, a ∈ acc → OK pre a) → ∀ a, a ∈ out → OK (pre ++ ts) a :=
  fun h _ hacc => allOK_of_acc (n_all.params h) (fun a h => (hacc a h).left) fun _ => .right

theorem OK.of_indexParts {ts : List Token} {e c k : Op} (h0 : OK ts e) (hi : indexParts e = some (c, k)) :
    OK ts c ∧ OK ts k := by
  unfold indexParts at hi
  split at hi
  · injection hi with hi; injection hi with h1 h2; subst h1; subst h2
    exact ⟨fun x hx => h0 x (.arg (by simp) hx), fun x hx => h0 x (.arg (by simp) hx)⟩
  · cases hi

theorem nStmt {ts : List Token} {s : Option Op} {nxt : LA} (h : RStmt ts s nxt) : ∀ e, s = some e → OK ts e := by
  intro e he
  cases h with
  | empty _ => cases he
  | expr _ hx => cases he; exact nExpr hx
  | assign _ hn _ hx => cases he; exact OK.assign (.head hn) (nExpr hx).cons.cons
  | short _ hn _ _ hx => cases he; exact OK.short (.head hn) (nExpr hx).cons.cons
  | del _ _ hx hi =>
    cases he
    have hp := OK.of_indexParts (nExpr hx) hi
    exact OK.call (.inr impl_delitem) (List.forall_mem_cons.mpr ⟨hp.1.cons, List.forall_mem_singleton.mpr hp.2.cons⟩)
  | setitem _ hx hi _ hv =>
    cases he
    have hp := OK.of_indexParts (nExpr hx) hi
    exact OK.call (.inr impl_setitem) (List.forall_mem_cons.mpr
      ⟨hp.1.left, List.forall_mem_cons.mpr ⟨hp.2.left, List.forall_mem_singleton.mpr (nExpr hv).cons.right⟩⟩)
  | setop _ hx hi _ hv =>
    cases he
    have hp := OK.of_indexParts (nExpr hx) hi
    exact OK.call (.inr impl_setop)
      (List.forall_mem_cons.mpr ⟨hp.1.left, List.forall_mem_cons.mpr ⟨hp.2.left,
        List.forall_mem_cons.mpr ⟨OK.value _ _, List.forall_mem_singleton.mpr (nExpr hv).cons.right⟩⟩⟩)

theorem pushStmt_eq (acc : List Op) (s : Option Op) : pushStmt acc s = s.toList ++ acc := by cases s <;> rfl

theorem nCode {acc : List Op} {ts : List Token} {out : List Op} (h : RCode acc ts out) :
    ∀ a, a ∈ out → a ∈ acc ∨ OK ts a := by
  induction h with
  | @last acc ts s hs =>
    rw [pushStmt_eq]
    exact accOK_last fun a h => nStmt hs a (Option.mem_toList.mp h)
  | @more acc ts s nl rest out hs _ _ ih =>
    rw [pushStmt_eq] at ih
    exact accOK_step (fun a h => (nStmt hs a (Option.mem_toList.mp h)).left) ih fun _ h => h.cons.right

theorem parsed_names_are_tokens {ts : List Token} {tree : Op} (h : parseTokens ts = .ok tree) :
    ∀ x, Mentions tree x → TokName ts x ∨ x ∈ implicitNameList := by
  obtain ⟨out, e, r⟩ := sound h
  subst e
  intro x hx
  cases hx with
  | line hm hx => exact (nCode r _ hm).elim (fun h => nomatch h) fun h => h x hx

end Sq
