/-
  A whole `eval` call.  A machine that halts has finished (it halts only by returning or
  raising out of an empty continuation); the compositional semantics INCLUDING AST-supplied names (`ast_names`: each entry
  is evaluated in turn and bound in the top scope, then the program) is sound and complete for the machine started by
  `initCfg`.
-/
import SqLemmas.DenoteSound
set_option autoImplicit false
namespace Sq.Den

theorem live_mkRet (v : Val) (k : List Frame) (w : World) : Live (mkRet v k w) := trivial
theorem live_mkRaise (e : PyErr) (k : List Frame) (w : World) : Live (mkRaise e k w) := trivial
theorem live_ev (op : Op) (vmi : Nat) (k : List Frame) (w : World) : Live { ctl := .ev op vmi, k := k, w := w } := trivial

theorem halt_inj {o1 o2 : Out} (h : o1.halt = o2.halt) : o1 = o2 := by
  cases o1 <;> cases o2 <;> cases h <;> rfl

theorem halt_to_finN {B : List Nat} (c : Core) (hl0 : Live c) (N : Nat) (o : Out) (w' : World) (k' : List Frame)
    (h : run N (c.withBudgets B) = { ctl := o.halt, k := k', w := w', budgets := B }) : ∃ n, FinN B c n o w' := by
  -- without underflow every step keeps the control live
  obtain ⟨n1, o1, w1, hlt, hF⟩ := FinN.first (c := c) (N := N) fun hno => by
    have := run_live N (c.withBudgets B) hl0 hno
    rw [h] at this
    cases o <;> exact this
  -- one step after finishing the machine halts for good, so the halted configuration is that one
  obtain ⟨m, hm⟩ : ∃ m, N = n1 + 1 + m := ⟨N - n1 - 1, by omega⟩
  have hh := fin_then_halts (c := c.withBudgets B) (o := o1) (w' := w1) (n := n1) hF.1 m
  rw [← hm, h] at hh
  obtain ⟨ho, -, rfl, -⟩ := Cfg.mk.inj hh
  exact halt_inj ho ▸ ⟨n1, hF⟩

variable {B : List Nat}

def astCore (names : List (Name × Op)) (main : Op) (vmi : Nat) (w : World) : Core :=
  match names with
  | [] => { ctl := .ev main vmi, k := [], w := w }
  | (n, op) :: rest => { ctl := .ev op vmi, k := [.astK n rest main vmi], w := w }

theorem resume_astK (n : Name) (rest : List (Name × Op)) (main : Op) (vmi : Nat) (v : Val) (w : World) :
    resume (.astK n rest main vmi) v [] w =
      match astBind n vmi v w with
      | .error p => mkP p []
      | .ok w2 => astCore rest main vmi w2 := by
  unfold astBind
  simp only [resume]
  cases w.vm? vmi with
  | none => rfl
  | some vm =>
    simp only []
    cases writeTop w.heap vm.scopes n v with
    | none => rfl
    | some h' => cases rest with
      | nil => rfl
      | cons p rest' => rfl

theorem ast_agree (k : Nat) : ∀ (names : List (Name × Op)) (main : Op) (vmi : Nat) (w : World),
    Agree B k k (astCore names main vmi w) fun i => evalAst B i names main vmi w := by
  intro names
  induction names with
  | nil => exact fun main vmi w => (adequate k).op main vmi w
  | cons p rest ih =>
    obtain ⟨n, op⟩ := p
    intro main vmi w
    simp only [evalAst]
    refine (((adequate k).op op vmi w).andThen rfl (fun _ _ _ => rfl) fun v w1 => ?_).lower_steps
    rw [resume_astK]
    cases astBind n vmi v w1 with
    | error p => exact .finished p
    | ok w2 => exact ih main vmi w2

theorem initCfg_core (w : World) (bs : List Nat) (namesAddr budget : Nat) (ast : Op) (astNames : List (Name × Op)) :
    initCfg w bs namesAddr budget ast astNames =
      (astCore astNames ast w.vms.length { w with vms := w.vms ++ [{ scopes := [namesAddr], ops := 0 }] }).withBudgets
        (bs ++ [budget]) := by
  cases astNames with
  | nil => rfl
  | cons p rest => obtain ⟨n, op⟩ := p; rfl

theorem live_astCore (names : List (Name × Op)) (main : Op) (vmi : Nat) (w : World) : Live (astCore names main vmi w) := by
  cases names with
  | nil => trivial
  | cons p rest => obtain ⟨n, op⟩ := p; trivial

theorem eval_call_iff (w : World) (bs : List Nat) (namesAddr budget : Nat) (ast : Op) (astNames : List (Name × Op))
    (o : Out) (w' : World) :
    (∃ N, run N (initCfg w bs namesAddr budget ast astNames) = { ctl := o.halt, k := [], w := w', budgets := bs ++ [budget] }) ↔
    (∃ f, evalAst (bs ++ [budget]) f astNames ast w.vms.length
      { w with vms := w.vms ++ [{ scopes := [namesAddr], ops := 0 }] } = some (o, w')) := by
  rw [initCfg_core]
  constructor
  · rintro ⟨N, h⟩
    obtain ⟨n, hf⟩ := halt_to_finN _ (live_astCore _ _ _ _) N o w' [] h
    exact Agree.complete (fun k => ast_agree k _ _ _ _) hf
  · rintro ⟨f, hf⟩
    obtain ⟨n, hn⟩ := fin_iff.mp (Agree.fin (fun k => ast_agree k _ _ _ _) hf)
    exact ⟨n + 1 + 0, fin_then_halts (c := (astCore astNames ast w.vms.length _).withBudgets (bs ++ [budget])) hn.1 0⟩

end Sq.Den
