/-
  Runs of the machine that stay within their own continuation (`Steps`; `Fin` / `FinN` when they end in an outcome), and the
  frame lemma in two readings: a finished run hands its outcome to any frame beneath it (`sub_then`); a finished run beneath a
  frame passes through the point where the part above it finishes, and that part, run alone, finishes the same way
  (`FinN.split`).  Last, that a finished run keeps the scopes (`fin_keeps_scopes`), and the inversion of `assignAct`
  that C12Assign reads.
-/
import Sq.Denote
import SqLemmas.Local
set_option autoImplicit false
namespace Sq.Den

theorem least_index (P : Nat → Prop) (n : Nat) (h : P n) : ∃ i, i ≤ n ∧ P i ∧ ∀ j, j < i → ¬ P j := by
  induction n using Nat.strongRecOn with
  | _ n ih =>
    by_cases hex : ∃ j, j < n ∧ P j
    · obtain ⟨j, hj, hp⟩ := hex
      obtain ⟨i, hi, hpi, hm⟩ := ih j hj hp
      exact ⟨i, by omega, hpi, hm⟩
    · exact ⟨n, Nat.le_refl n, h, fun j hj hp => hex ⟨j, hj, hp⟩⟩

variable {B : List Nat}

def Steps (B : List Nat) (c c' : Core) : Prop :=
  ∃ n, run n (c.withBudgets B) = c'.withBudgets B ∧ ∀ i, i < n → ¬ Underflow (run i (c.withBudgets B)).core

theorem Steps.refl (c : Core) : Steps B c c := ⟨0, rfl, fun i hi => by omega⟩

theorem run_add' (a b : Nat) (c : Cfg) : run (a + b) c = run b (run a c) := run_add a b c

theorem Steps.trans {a b c : Core} (h1 : Steps B a b) (h2 : Steps B b c) : Steps B a c := by
  obtain ⟨n, e1, u1⟩ := h1
  obtain ⟨m, e2, u2⟩ := h2
  refine ⟨n + m, by rw [run_add', e1, e2], fun i hi => ?_⟩
  by_cases h : i < n
  · exact u1 i h
  · obtain ⟨j, rfl⟩ : ∃ j, i = n + j := ⟨i - n, by omega⟩
    rw [run_add', e1]
    exact u2 j (by omega)

theorem core_withBudgets (c : Core) : (c.withBudgets B).core = c := rfl

theorem Steps.one (c : Core) (h : ¬ Underflow c) : Steps B c (stepCore B c) :=
  ⟨1, rfl, fun i hi => by
    have : i = 0 := by omega
    subst this; exact h⟩

theorem Steps.under {c c' : Core} (h : Steps B c c') (ks : List Frame) : Steps B (c.app ks) (c'.app ks) := by
  obtain ⟨n, e, u⟩ := h
  have key : ∀ i, i ≤ n → run i ((c.app ks).withBudgets B) = (run i (c.withBudgets B)).app ks := fun i hi =>
    run_app i (c.withBudgets B) ks fun j hj => u j (by omega)
  refine ⟨n, by rw [key n (Nat.le_refl _), e]; rfl, fun i hi => ?_⟩
  rw [key i (by omega)]
  exact fun ⟨hk, hc⟩ => u i hi ⟨(List.append_eq_nil_iff.mp hk).1, hc⟩

def Out.ctl : Out → Ctl
  | .ret v => .ret v
  | .raise e => .raise e

def mk (o : Out) (k : List Frame) (w : World) : Core := { ctl := o.ctl, k := k, w := w }

def mkP (p : Out × World) (k : List Frame) : Core := mk p.1 k p.2

theorem mkRet_eq (v : Val) (k : List Frame) (w : World) : mkRet v k w = mk (.ret v) k w := rfl
theorem mkRaise_eq (e : PyErr) (k : List Frame) (w : World) : mkRaise e k w = mk (.raise e) k w := rfl

def Fin (B : List Nat) (c : Core) (o : Out) (w' : World) : Prop := Steps B c (mk o [] w')

def after (fr : Frame) (o : Out) (k : List Frame) (w : World) : Core :=
  match o with
  | .ret v => resume fr v k w
  | .raise e => unwind fr e k w

theorem sub_then {c : Core} {o : Out} {w1 : World} (h : Fin B c o w1) (fr : Frame) (k : List Frame) :
    Steps B (c.app (fr :: k)) (after fr o k w1) := by
  refine (Steps.under h (fr :: k)).trans ?_
  have hu : ¬ Underflow (mk o (fr :: k) w1) := fun hu => by cases hu.1
  have := Steps.one (B := B) (mk o (fr :: k) w1) hu
  cases o <;> exact this

def FinN (B : List Nat) (c : Core) (n : Nat) (o : Out) (w' : World) : Prop :=
  run n (c.withBudgets B) = (mk o [] w').withBudgets B ∧ ∀ i, i < n → ¬ Underflow (run i (c.withBudgets B)).core

theorem FinN.toFin {c : Core} {n : Nat} {o : Out} {w' : World} (h : FinN B c n o w') : Fin B c o w' := ⟨n, h.1, h.2⟩

theorem fin_iff {c : Core} {o : Out} {w' : World} : Fin B c o w' ↔ ∃ n, FinN B c n o w' :=
  ⟨fun ⟨n, h1, h2⟩ => ⟨n, h1, h2⟩, fun ⟨_, h⟩ => h.toFin⟩

theorem underflow_mk (o : Out) (w : World) : Underflow (mk o [] w) := by
  refine ⟨rfl, ?_⟩
  cases o
  · exact Or.inl ⟨_, rfl⟩
  · exact Or.inr ⟨_, rfl⟩

theorem FinN.of_mkP (p : Out × World) {n : Nat} {o : Out} {w' : World} (h : FinN B (mkP p []) n o w') :
    n = 0 ∧ (o, w') = p := by
  cases n with
  | succ n => exact absurd (underflow_mk p.1 p.2) (h.2 0 (Nat.succ_pos _))
  | zero =>
    obtain ⟨o1, w1⟩ := p
    obtain ⟨hc, -, rfl, -⟩ := Cfg.mk.inj h.1
    cases o <;> cases o1 <;> cases hc <;> exact ⟨rfl, rfl⟩

theorem FinN.step {c : Core} {n : Nat} {o : Out} {w' : World} (h : FinN B c n o w') (hu : ¬ Underflow c) :
    ∃ m, n = m + 1 ∧ FinN B (stepCore B c) m o w' := by
  cases n with
  | zero =>
    have e : c = mk o [] w' := congrArg Cfg.core h.1
    exact absurd (e ▸ underflow_mk o w') hu
  | succ m => exact ⟨m, rfl, h.1, fun i hi => h.2 (i + 1) (by omega)⟩

theorem FinN.first {c : Core} {N : Nat} (h : ¬ ∀ i, i < N → ¬ Underflow (run i (c.withBudgets B)).core) :
    ∃ n o w', n < N ∧ FinN B c n o w' := by
  obtain ⟨i, hi, hu⟩ : ∃ i, i < N ∧ Underflow (run i (c.withBudgets B)).core :=
    Classical.byContradiction fun hno => h fun i hi hu => hno ⟨i, hi, hu⟩
  obtain ⟨n, hle, ⟨hk, hctl⟩, hmin⟩ := least_index (fun i => Underflow (run i (c.withBudgets B)).core) i hu
  have hb := run_budgets n (c.withBudgets B)
  cases hc : run n (c.withBudgets B) with
  | mk ctl k w b =>
    rw [hc] at hk hctl hb
    simp only [Cfg.core] at hk hctl
    subst hk; subst hb
    rcases hctl with ⟨v, rfl⟩ | ⟨e, rfl⟩
    · exact ⟨n, .ret v, w, by omega, hc, hmin⟩
    · exact ⟨n, .raise e, w, by omega, hc, hmin⟩

theorem FinN.split_of {c c' : Core} {fr : Frame} {n : Nat} {o : Out} {w' : World} (h : FinN B c' n o w')
    (hc : c.app [fr] = c') :
    ∃ n1 o1 w1 m, FinN B c n1 o1 w1 ∧ n = n1 + 1 + m ∧ FinN B (after fr o1 [] w1) m o w' := by
  subst hc
  have happ : ∀ i, (∀ j, j < i → ¬ Underflow (run j (c.withBudgets B)).core) →
      run i ((c.app [fr]).withBudgets B) = (run i (c.withBudgets B)).app [fr] := fun i hi =>
    run_app i (c.withBudgets B) [fr] hi
  -- the part on top of the frame cannot run for all `n` steps: the frame would still be there
  obtain ⟨n1, o1, w1, hlt, hF1⟩ := FinN.first (c := c) (N := n) fun hno => by
    have e := happ n hno
    rw [h.1] at e
    exact nomatch (List.append_eq_nil_iff.mp (congrArg Cfg.k e).symm).2
  obtain ⟨m, rfl⟩ : ∃ m, n = n1 + 1 + m := ⟨n - n1 - 1, by omega⟩
  have hstep : run (n1 + 1) ((c.app [fr]).withBudgets B) = (after fr o1 [] w1).withBudgets B := by
    rw [run_add', happ n1 hF1.2, hF1.1]
    cases o1 <;> rfl
  refine ⟨n1, o1, w1, m, hF1, rfl, ?_, fun i hi => ?_⟩
  · rw [← hstep, ← run_add']; exact h.1
  · rw [← hstep, ← run_add']; exact h.2 (n1 + 1 + i) (by omega)

theorem FinN.split {c : Core} {fr : Frame} {n : Nat} {o : Out} {w' : World} (h : FinN B (c.app [fr]) n o w') :
    ∃ n1 o1 w1 m, FinN B c n1 o1 w1 ∧ n = n1 + 1 + m ∧ FinN B (after fr o1 [] w1) m o w' := h.split_of rfl

/-- `hb` is `rfl` when `c` stands on an empty continuation in `w`, `Local.bal_at [] i` when `c` is a call started in `w` -/
theorem fin_keeps_scopes {c : Core} {o : Out} {w' : World} (h : Fin B c o w') {w : World} (i : Nat)
    (hb : bal c.w c.k i = bal w [] i) : scopesAt w' i = scopesAt w i := by
  obtain ⟨n, hn⟩ := fin_iff.mp h
  rw [← bal_nil, ← bal_nil, ← hb]
  exact (congrArg (fun c : Cfg => bal c.w c.k i) hn.1).symm.trans (run_bal n (c.withBudgets B) i)

/-- `n = v` read backwards: the one way `assignAct` returns (always None): the copy was made, the VM exists, the write went through -/
theorem of_assignAct_ret {n : Name} {vmi : Nat} {v r : Val} {w w' : World} (h : assignAct n vmi v w = (.ret r, w')) :
    ∃ v' h' vm h'', deepcopy' w.heap v = .ok (v', h') ∧ w.vm? vmi = some vm ∧ writeTop h' vm.scopes n v' = some h'' ∧
      r = .none ∧ w' = { w with heap := h'' } := by
  unfold assignAct at h
  split at h
  · cases h
  · next v' h' hd =>
    split at h
    · cases h
    · next vm hvm =>
      split at h
      · next h'' hwt => cases h; exact ⟨v', h', vm, h'', hd, hvm, hwt, rfl, rfl⟩
      · cases h

end Sq.Den
