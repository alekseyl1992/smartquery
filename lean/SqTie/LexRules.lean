/- Tie: PLY's ordered lexer rule list (token, regex source, function-rule flag) and ignore set. -/
import SqGen.Generated
import Sq.Spec
namespace SqTie

theorem lexrules_tie : SqGen.lexRules = Sq.Spec.lexRules := rfl

theorem lexignore_tie : SqGen.lexIgnore = " \t" := rfl

end SqTie
