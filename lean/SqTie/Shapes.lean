/- Advisory tie (DESIGN.md §3.1): structural shape facts.  A failure here is not a verdict; it
   switches the run to the thorough correspondence budget for the mechanism concerned. -/
import SqGen.Generated
namespace SqTie

theorem op_classes_shape :
    ∀ c ∈ SqGen.opClasses, c.2 = "super-first" ∨ c.2 = "inherits" := by decide +kernel

theorem charge_compare_shape :
    SqGen.chargeCompare = "state.ops_evaluated >= state.max_ops_evaluated" := rfl

theorem resets_shape :
    SqGen.resetsInParse = ["lexpos=0", "lineno=1", "paren_count=0", "ast=None"] ∧
    SqGen.resetsInListNames = ["lexpos=0", "lineno=1", "paren_count=0"] := ⟨rfl, rfl⟩

end SqTie
