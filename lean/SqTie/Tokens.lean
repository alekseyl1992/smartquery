/- Tie: token names, keyword table and reserved-unused keywords. -/
import SqGen.Generated
import Sq.Lex
import Sq.Spec
namespace SqTie

theorem tokens_tie : SqGen.tokens = Sq.Spec.tokens := rfl

theorem reserved_tie :
    SqGen.reserved = Sq.reservedTable.map (fun p => (p.1, p.2.name)) := rfl

theorem reserved_unused_tie :
    SqGen.reservedUnused = Sq.reservedUnused.map (·.name) := rfl

end SqTie
