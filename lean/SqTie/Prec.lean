/- Tie: the operator table of smartquery/lexer.py equals the table the parser model climbs. -/
import SqGen.Generated
import Sq.Parse
namespace SqTie

def assocName : Sq.Assoc → String
  | .left => "left" | .right => "right" | .nonassoc => "nonassoc"

def tkName : Option Sq.Tk → String
  | some t => t.name
  | none => "UMINUS"

/-- `lexer.precedence` (regenerated from the working tree) is the model's `precTable`. -/
theorem prec_tie :
    SqGen.precedence = Sq.precTable.map (fun p => (assocName p.1, p.2.map tkName)) := rfl

end SqTie
