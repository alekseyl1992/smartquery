import SqGen.Generated
import Sq.Machine
namespace SqTie

theorem max_array_size_tie : SqGen.maxArraySize = Sq.maxArraySize := rfl
theorem cast_dict_keys_tie : SqGen.castDictKeysToStrings = true := rfl
theorem default_budget_tie :
    SqGen.defaultMaxOpsVM = Sq.defaultBudget ∧ SqGen.defaultMaxOpsEval = Sq.defaultBudget := ⟨rfl, rfl⟩
theorem numeric_types_tie :
    SqGen.numericTypes = ["decimal.Decimal", "builtins.int", "builtins.float"] := rfl

end SqTie
