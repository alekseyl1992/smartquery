import SqLemmas.DecLemmas
import SqLemmas.NumLemmas
import SqLemmas.LexLemmas
import SqLemmas.MachineLemmas
import SqLemmas.Local
import SqLemmas.ParseSpec
import SqLemmas.ParseInduct
import SqLemmas.ParseComplete
import SqLemmas.ParseLayout
import SqLemmas.ParseSound
import SqLemmas.ParseNames
import SqLemmas.HeapLemmas
import SqLemmas.CopyLemmas
import SqLemmas.DictRefine
import SqLemmas.RandLemmas
import SqLemmas.ParseCFG
import SqLemmas.DivLemmas
import SqLemmas.FixLemmas
import SqLemmas.BuiltinTable
import SqLemmas.InvAll
import SqLemmas.InvMachine
import SqLemmas.PlainLemmas
import SqLemmas.InvNames
import SqLemmas.HeapStep
import SqLemmas.HarmlessAll
import SqLemmas.InvHeap
import SqLemmas.ListRefine
import SqLemmas.SliceLemmas
import SqLemmas.LexMove
import SqLemmas.ParseMap
import SqLemmas.LexCont
import SqLemmas.LexInsert
import SqLemmas.RatSpec
import SqLemmas.DenoteRun
import SqLemmas.DenoteAgree
import SqLemmas.DenoteSound
import SqLemmas.CopyIso
import SqLemmas.InvSep
import SqLemmas.DenoteAst
import SqLemmas.DenoteScopes
import SqLemmas.SessionLemmas
